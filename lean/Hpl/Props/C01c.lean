import Hpl.Props.C01b
/-!
# C01 / C06 — the grammar does not look at layout flags

`Renders` only reads, of each token, its kind, its text, and - for word tokens - whether it directly follows a word
character.  So a token sequence that agrees with a rendering in these respects (`tokKey`) is a rendering of the same tree
(`renders_sim`), and `parse_complete` applies to what the scanner makes of a printed text as soon as the scanner output agrees
with `Raw.toks` on the keys - which `Props/C06e`–`C06h` prove of the scanner model for every printed form, and which the driver also
checks on every generated text (`rtcheck`).
-/
namespace Hpl

theorem key_kind {t t' : Tok} (h : tokKey t' = tokKey t) : t'.kind = t.kind := (Prod.mk.inj h).1
theorem key_text {t t' : Tok} (h : tokKey t' = tokKey t) : t'.text = t.text := (Prod.mk.inj (Prod.mk.inj h).2).1
theorem key_isSym {t t' : Tok} (h : tokKey t' = tokKey t) (s : String) : isSym t' s = isSym t s := by
  simp only [isSym, key_kind h, key_text h]
theorem key_isKw {t t' : Tok} (h : tokKey t' = tokKey t) (s : String) : isKw t' s = isKw t s := by
  have h3 := (Prod.mk.inj (Prod.mk.inj h).2).2
  simp only [isKw, key_kind h, key_text h]
  cases hw : (t.kind == TokKind.word) with
  | false => simp
  | true =>
    rw [key_kind h, hw] at h3
    simp only [Bool.true_and] at h3
    rw [h3]
theorem key_afterWord {t t' : Tok} (h : tokKey t' = tokKey t) (hw : t.kind = .word) : t'.afterWord = t.afterWord := by
  have h3 := (Prod.mk.inj (Prod.mk.inj h).2).2
  rw [key_kind h, hw] at h3
  simpa using h3
theorem key_opTest {t t' : Tok} (h : tokKey t' = tokKey t) (k : Nat) : opTest k t' = opTest k t := by
  unfold opTest; split <;> simp only [key_isKw h, key_isSym h]
theorem key_relTest {t t' : Tok} (h : tokKey t' = tokKey t) : relTest t' = relTest t := by
  simp only [relTest, key_kind h, key_text h, key_isKw h]

theorem key_isLogicKw {t t' : Tok} (h : tokKey t' = tokKey t) : isLogicKw t' = isLogicKw t := by
  simp only [isLogicKw, key_isKw h]
theorem key_isNameTok {t t' : Tok} (h : tokKey t' = tokKey t) (hw : t.kind = .word) : isNameTok t' = isNameTok t := by
  simp only [isNameTok, key_text h, key_afterWord h hw]

theorem map_cons_inv {ts' : List Tok} {t : Tok} {ts : List Tok} (h : ts'.map tokKey = (t :: ts).map tokKey) :
    ∃ t' r', ts' = t' :: r' ∧ tokKey t' = tokKey t ∧ r'.map tokKey = ts.map tokKey := by
  cases ts' with
  | nil => simp at h
  | cons t' r' =>
    simp only [List.map_cons, List.cons.injEq] at h
    exact ⟨t', r', rfl, h.1, h.2⟩

theorem map_append_inv {ts' a b : List Tok} (h : ts'.map tokKey = (a ++ b).map tokKey) :
    ∃ a' b', ts' = a' ++ b' ∧ a'.map tokKey = a.map tokKey ∧ b'.map tokKey = b.map tokKey := by
  rw [List.map_append] at h
  obtain ⟨a', b', rfl, ha, hb⟩ := List.map_eq_append_iff.1 h
  exact ⟨a', b', rfl, ha, hb⟩

theorem map_single_inv {ts' : List Tok} {t : Tok} (h : ts'.map tokKey = [t].map tokKey) : ∃ t', ts' = [t'] ∧ tokKey t' = tokKey t := by
  obtain ⟨t', r', rfl, hk, hr⟩ := map_cons_inv h
  cases r' with
  | nil => exact ⟨t', rfl, hk⟩
  | cons _ _ => simp at hr

/-- **the grammar reads tokens only through their key** -/
theorem renders_sim {k : Nat} {e : Raw} {ts : List Tok} (h : Renders k e ts) : ∀ ts', ts'.map tokKey = ts.map tokKey → Renders k e ts' := by
  induction h with
  | @up k e ts hk hh _ ih =>
    intro ts' h
    refine .up hk (fun h3 t' r' he => ?_) (ih ts' h)
    subst he
    cases ts with
    | nil => simp at h
    | cons t r =>
      simp only [List.map_cons, List.cons.injEq] at h
      rw [key_isLogicKw h.1]
      exact hh h3 t r rfl
  | @binL k a b ta tb t hl ht _ _ iha ihb =>
    intro ts' h
    obtain ⟨a', r', rfl, ha, hr⟩ := map_append_inv h
    obtain ⟨t', b', rfl, hk, hb⟩ := map_cons_inv hr
    exact key_text hk ▸ Renders.binL t' hl ((key_opTest hk _).trans ht) (iha a' ha) (ihb b' hb)
  | @rel a b ta tb t ht _ _ iha ihb =>
    intro ts' h
    obtain ⟨a', r', rfl, ha, hr⟩ := map_append_inv h
    obtain ⟨t', b', rfl, hk, hb⟩ := map_cons_inv hr
    exact key_text hk ▸ Renders.rel t' ((key_relTest hk).trans ht) (iha a' ha) (ihb b' hb)
  | not t ht _ iha =>
    intro ts' h
    obtain ⟨t', a', rfl, hk, ha⟩ := map_cons_inv h
    exact .not t' ((key_isKw hk _).trans ht) (iha a' ha)
  | @quant d b td tb t v kin c ht hvk hvn hkin hc _ _ ihd ihb =>
    intro ts' h
    obtain ⟨t', r1, rfl, hkt, h1⟩ := map_cons_inv h
    obtain ⟨v', r2, rfl, hkv, h2⟩ := map_cons_inv h1
    obtain ⟨kin', r3, rfl, hkk, h3⟩ := map_cons_inv h2
    obtain ⟨d', r4, rfl, hd, h4⟩ := map_append_inv h3
    obtain ⟨c', b', rfl, hkc, hb⟩ := map_cons_inv h4
    exact key_text hkt ▸ key_text hkv ▸ Renders.quant t' v' kin' c' (by rw [key_isKw hkt, key_isKw hkt]; exact ht) ((key_kind hkv).trans hvk)
      (by rw [key_text hkv]; exact hvn) ((key_isKw hkk _).trans hkin) ((key_isSym hkc _).trans hc) (ihd d' hd) (ihb b' hb)
  | neg t ht _ iha =>
    intro ts' h
    obtain ⟨t', a', rfl, hk, ha⟩ := map_cons_inv h
    exact .neg t' ((key_isSym hk _).trans ht) (iha a' ha)
  | @paren e ts o c ho hc _ ih =>
    intro ts' h
    obtain ⟨o', r1, rfl, hko, h1⟩ := map_cons_inv h
    obtain ⟨m', r2, rfl, hm, h2⟩ := map_append_inv h1
    obtain ⟨c', rfl, hkc⟩ := map_single_inv h2
    exact .paren o' c' ((key_isSym hko _).trans ho) ((key_isSym hkc _).trans hc) (ih m' hm)
  | str t hk =>
    intro ts' h
    obtain ⟨t', rfl, hkt⟩ := map_single_inv h
    exact key_text hkt ▸ Renders.str t' ((key_kind hkt).trans hk)
  | num t v hk hv =>
    intro ts' h
    obtain ⟨t', rfl, hkt⟩ := map_single_inv h
    exact key_text hkt ▸ Renders.num t' v ((key_kind hkt).trans hk) (by rw [key_text hkt]; exact hv)
  | true_ t hk ht =>
    intro ts' h
    obtain ⟨t', rfl, hkt⟩ := map_single_inv h
    exact .true_ t' ((key_kind hkt).trans hk) ((key_text hkt).trans ht)
  | false_ t hk ht =>
    intro ts' h
    obtain ⟨t', rfl, hkt⟩ := map_single_inv h
    exact .false_ t' ((key_kind hkt).trans hk) ((key_text hkt).trans ht)
  | const t v hk ha hv =>
    intro ts' h
    obtain ⟨t', rfl, hkt⟩ := map_single_inv h
    exact key_text hkt ▸ Renders.const t' v ((key_kind hkt).trans hk) ((key_afterWord hkt hk).trans ha) (by rw [key_text hkt]; exact hv)
  | @call a ta f o c hk hn ho hc _ iha =>
    intro ts' h
    obtain ⟨f', r1, rfl, hkf, h1⟩ := map_cons_inv h
    obtain ⟨o', r2, rfl, hko, h2⟩ := map_cons_inv h1
    obtain ⟨a', r3, rfl, ha, h3⟩ := map_append_inv h2
    obtain ⟨c', rfl, hkc⟩ := map_single_inv h3
    exact key_text hkf ▸ Renders.call f' o' c' ((key_kind hkf).trans hk) ((key_isNameTok hkf hk).trans hn) ((key_isSym hko _).trans ho)
      ((key_isSym hkc _).trans hc) (iha a' ha)
  | @range lo hi tl th o kto c ho hto hc _ _ ihl ihh =>
    intro ts' h
    obtain ⟨o', r1, rfl, hko, h1⟩ := map_cons_inv h
    obtain ⟨l', r2, rfl, hl, h2⟩ := map_append_inv h1
    obtain ⟨k', r3, rfl, hkk, h3⟩ := map_cons_inv h2
    obtain ⟨h', r4, rfl, hh, h4⟩ := map_append_inv h3
    obtain ⟨c', rfl, hkc⟩ := map_single_inv h4
    exact key_text hko ▸ key_text hkc ▸ Renders.range o' k' c' (by rw [key_isSym hko, key_isSym hko]; exact ho) ((key_isKw hkk _).trans hto)
      (by rw [key_isSym hkc, key_isSym hkc]; exact hc) (ihl l' hl) (ihh h' hh)
  | setOne _ ihe => intro ts' h; exact .setOne (ihe ts' h)
  | @setMore es ts e te c hc _ _ ihs ihe =>
    intro ts' h
    obtain ⟨s', r1, rfl, hs, h1⟩ := map_append_inv h
    obtain ⟨c', e', rfl, hkc, he⟩ := map_cons_inv h1
    exact .setMore c' ((key_isSym hkc _).trans hc) (ihs s' hs) (ihe e' he)
  | @set es ts o c ho hc _ ihs =>
    intro ts' h
    obtain ⟨o', r1, rfl, hko, h1⟩ := map_cons_inv h
    obtain ⟨m', r2, rfl, hm, h2⟩ := map_append_inv h1
    obtain ⟨c', rfl, hkc⟩ := map_single_inv h2
    exact .set o' c' ((key_isSym hko _).trans ho) ((key_isSym hkc _).trans hc) (ihs m' hm)
  | var t hk =>
    intro ts' h
    obtain ⟨t', rfl, hkt⟩ := map_single_inv h
    exact key_text hkt ▸ Renders.var t' ((key_kind hkt).trans hk)
  | own t hk hn =>
    intro ts' h
    obtain ⟨t', rfl, hkt⟩ := map_single_inv h
    exact key_text hkt ▸ Renders.own t' ((key_kind hkt).trans hk) ((key_isNameTok hkt hk).trans hn)
  | @field m tm d n hd hk hn _ ih =>
    intro ts' h
    obtain ⟨m', r1, rfl, hm, h1⟩ := map_append_inv h
    obtain ⟨d', r2, rfl, hkd, h2⟩ := map_cons_inv h1
    obtain ⟨n', rfl, hkn⟩ := map_single_inv h2
    exact key_text hkn ▸ Renders.field d' n' ((key_isSym hkd _).trans hd) ((key_kind hkn).trans hk) (by rw [key_text hkn]; exact hn) (ih m' hm)
  | @index a ta i ti o c ho hc _ _ iha ihi =>
    intro ts' h
    obtain ⟨a', r1, rfl, ha, h1⟩ := map_append_inv h
    obtain ⟨o', r2, rfl, hko, h2⟩ := map_cons_inv h1
    obtain ⟨i', r3, rfl, hi, h3⟩ := map_append_inv h2
    obtain ⟨c', rfl, hkc⟩ := map_single_inv h3
    exact .index o' c' ((key_isSym hko _).trans ho) ((key_isSym hkc _).trans hc) (iha a' ha) (ihi i' hi)
  | ref _ ih => intro ts' h; exact .ref (ih ts' h)

/-- the round trip on what a scanner makes of the printed form: if the tokens agree with `Raw.toks` on the keys the grammar reads
    (proved of the scanner model in `Props/C06e`; also the per-text check `rtcheck` of the driver), the parser returns the tree -/
theorem roundtrip_of_scanned (x : Raw) (hp : x.printable = true) (ts : List Tok) (h : ts.map tokKey = x.toks.map tokKey) :
    parseExpressionToks ts = .ok x :=
  parse_complete (renders_sim (printed_is_rendering x hp) ts h)

end Hpl
