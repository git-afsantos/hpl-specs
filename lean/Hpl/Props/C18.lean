import Hpl.Model.Parser
/-! # C18 — a specification file is exactly its sequence of annotated properties: the empty file, a repeated annotation key,
    and the member-by-member build.  The theorems of the property are in C18b–C18f. -/
namespace Hpl

/-- an empty file is rejected with a syntax error -/
theorem empty_file_rejected : parseSpecification "" = .error .syntax := by rfl

/-- a repeated annotation key is a syntax error, whatever follows -/
theorem duplicate_key_rejected (r : RawProperty) (h : (r.metadata.map Prod.fst).Nodup = false ∨ ¬ (r.metadata.map Prod.fst).Nodup) :
    buildProperty r = .error .syntax := by
  have hn : ¬ (r.metadata.map Prod.fst).Nodup := by
    rcases h with h | h
    · intro hc; simp [hc] at h
    · exact h
  unfold buildProperty checkMetadata
  simp [hn, bind, Except.bind]

/-- a file is built member by member: its result is the list of the members' results, or the first member error -/
theorem buildSpec_members (rs : List RawProperty) (h : rs ≠ []) : buildSpec rs = rs.mapM buildProperty := by
  unfold buildSpec
  cases rs with
  | nil => exact absurd rfl h
  | cons r rs => simp

end Hpl
