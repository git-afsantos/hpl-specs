import Hpl.Spec.PrintToksProp
import Hpl.Props.C06b
import Hpl.Props.C18d
/-!
# C06 / C18 — reading back the printed form of properties and specification files, at token level

`parse_property_toks_roundtrip`, `parse_file_toks_roundtrip`: the property-level parser model reads the token sequence of
the printed form of every property tree it can produce (`RawProperty.printable`) back to that tree, and a sequence of k
printed properties back to exactly those k trees in order.  The printed form is a phrase of the property grammar
(`rproperty_printed`), which the parser reads whole (`rproperty_whole`, `Props/C18d`); a file is the concatenation of such texts.
-/
namespace Hpl

theorem isKw_as_wordT : isKw (wordT "as") "as" = true := by decide

/-! ## the printed form of a printable property is a phrase of the property grammar -/

theorem rpred_printed (r : Raw) (hp : r.printable = true) : RPred (some r) ([symT "{"] ++ r.toks ++ [symT "}"]) := by
  obtain ⟨pre, hpre, h⟩ := pPredicate_snd (parse_pred_toks_roundtrip r hp [])
  rw [List.append_nil] at hpre
  cases hpre
  exact h

theorem rsimple_printed (s : RawSimple) (hp : s.printable = true) : RSimple s s.toks := by
  obtain ⟨name, alias, pred⟩ := s
  simp only [RawSimple.printable, Bool.and_eq_true] at hp
  obtain ⟨⟨hn, ha⟩, hpr⟩ := hp
  cases alias <;> cases pred
  · exact .mk (wordT name) rfl hn .none .none
  · exact .mk (wordT name) rfl hn .none (rpred_printed _ hpr)
  · exact .mk (wordT name) rfl hn (.some (wordT "as") (wordT _) isKw_as_wordT rfl ha) .none
  · exact .mk (wordT name) rfl hn (.some (wordT "as") (wordT _) isKw_as_wordT rfl ha) (rpred_printed _ hpr)

theorem ralts_printed : ∀ (alts : List RawSimple), alts ≠ [] → (∀ s ∈ alts, s.printable = true) → RAlts alts (altsToks alts)
  | [], h, _ => absurd rfl h
  | [s], _, hp => .last (rsimple_printed s (hp s (List.mem_singleton_self s)))
  | s :: s' :: more, _, hp => by
      show RAlts _ (s.toks ++ [wordT "or"] ++ altsToks (s' :: more))
      rw [List.append_assoc]
      exact .cons (wordT "or") (rsimple_printed s (hp s List.mem_cons_self)) (by decide)
        (ralts_printed (s' :: more) (List.cons_ne_nil _ _) fun x hx => hp x (List.mem_cons_of_mem _ hx))

theorem revent_printed (e : RawEvent) (hp : e.printable = true) : REvent e e.toks := by
  cases e with
  | simple s => exact .simple (rsimple_printed s hp)
  | disj alts =>
    simp only [RawEvent.printable, Bool.and_eq_true, decide_eq_true_eq, List.all_eq_true] at hp
    have hne : alts ≠ [] := by rintro rfl; exact absurd hp.1 (by decide)
    exact .disj (symT "(") (symT ")") (by decide) (by decide) hp.1 (ralts_printed alts hne hp.2)

theorem rtime_printed (fmt : Rat → String) (tb : Option (Rat × TimeUnit)) (hok : timeOk fmt tb = true) : RTime tb (timeToks fmt tb) := by
  cases tb with
  | none => exact .none
  | some qu =>
    obtain ⟨q, u⟩ := qu
    replace hok : (match decimalValue (fmt q) with | some (.int i) => (i : Rat) == q | some (.flt r) => r == q | _ => false) = true := hok
    cases hd : decimalValue (fmt q) with
    | none => rw [hd] at hok; cases hok
    | some v =>
      have hq : litRat v = q := by
        rw [hd] at hok
        cases v <;> first | exact eq_of_beq hok | cases hok
      exact hq ▸ RTime.some (wordT "within") (mkTok .num (fmt q)) (unitTok u) v u (by decide) rfl hd (by cases u <;> decide)

theorem rmeta_printed : ∀ (md : List (String × String)), mdOk md = true → RMeta md (mdToks md)
  | [], _ => .nil
  | (k, v) :: md, hok => by
      simp only [mdOk, Bool.and_eq_true, Bool.or_eq_true] at hok
      obtain ⟨hk, hrest⟩ := hok
      have ih := rmeta_printed md hrest
      rcases hk with (⟨hid, hcn⟩ | ht) | hd
      · cases eq_of_beq hid
        exact .item (symT "#") (wordT "id") (symT ":") (wordT v) "id" (by decide) (by decide) (.inl ⟨rfl, rfl, hcn, rfl⟩) ih
      · cases eq_of_beq ht
        exact .item (symT "#") (wordT "title") (symT ":") (mkTok .str v) "title" (by decide) (by decide) (.inr (.inl ⟨rfl, rfl, rfl⟩)) ih
      · cases eq_of_beq hd
        exact .item (symT "#") (wordT "description") (symT ":") (mkTok .str v) "description" (by decide) (by decide)
          (.inr (.inr ⟨rfl, rfl, rfl⟩)) ih

theorem rscope_printed (p : RawProperty) (hact : optPrintable p.activator = true) (hterm : optPrintable p.terminator = true)
    (hshape : (match p.scopeKind with
       | .global => p.activator.isNone && p.terminator.isNone
       | .after => p.activator.isSome && p.terminator.isNone
       | .until_ => p.activator.isNone && p.terminator.isSome
       | .afterUntil => p.activator.isSome && p.terminator.isSome) = true) :
    RScope p.scopeKind p.activator p.terminator (scopeToks p) := by
  obtain ⟨sk, act, term, pk, beh, trig, tb, md⟩ := p
  simp only at hact hterm hshape
  cases sk <;> cases act <;> cases term <;> simp at hshape <;>
    simp only [scopeToks, optToks, List.cons_append, List.nil_append, List.append_assoc]
  · exact .global (wordT "globally") (by decide)
  · exact .afterUntil (wordT "after") (wordT "until") (by decide) (by decide) (revent_printed _ hact) (revent_printed _ hterm)
  · exact .after (wordT "after") (by decide) (revent_printed _ hact)
  · exact .until_ (wordT "until") (by decide) (revent_printed _ hterm)

theorem headOk_spec {e : RawEvent} (h : e.headOk = true) : notSomeNo e.toks := by
  intro t tl hts
  cases e with
  | simple s =>
    simp only [RawEvent.headOk, Bool.and_eq_true, bne_iff_ne, ne_eq] at h
    cases (List.cons.inj hts).1
    exact ⟨by simp [isKw, wordT, mkTok, h.1], by simp [isKw, wordT, mkTok, h.2]⟩
  | disj alts =>
    cases (List.cons.inj hts).1
    exact ⟨by decide, by decide⟩

theorem rpattern_printed (fmt : Rat → String) (p : RawProperty) (hp : p.printable fmt = true) :
    RPattern p.patternKind p.behaviour p.trigger (patternToks p) := by
  obtain ⟨sk0, act0, term0, pk, beh, trig, tb, md0⟩ := p
  simp only [RawProperty.printable, Bool.and_eq_true] at hp
  obtain ⟨⟨⟨⟨⟨⟨⟨_, _⟩, hb⟩, _⟩, _⟩, htrig⟩, _⟩, hpk⟩ := hp
  simp only at hb htrig hpk ⊢
  have kb := revent_printed beh hb
  cases pk with
  | existence =>
    cases trig with
    | some _ => simp at hpk
    | none => exact .existence (wordT "some") (by decide) kb
  | absence =>
    cases trig with
    | some _ => simp at hpk
    | none => exact .absence (wordT "no") (by decide) kb
  | response =>
    cases trig with
    | none => simp at hpk
    | some tr =>
      simp only [patternToks, optToks, List.cons_append, List.nil_append, List.append_assoc]
      exact .response (wordT "causes") (by decide) (headOk_spec hpk) (revent_printed tr htrig) kb
  | prevention =>
    cases trig with
    | none => simp at hpk
    | some tr =>
      simp only [patternToks, optToks, List.cons_append, List.nil_append, List.append_assoc]
      exact .prevention (wordT "forbids") (by decide) (headOk_spec hpk) (revent_printed tr htrig) kb
  | requirement =>
    cases trig with
    | none => simp at hpk
    | some tr =>
      simp only [Option.isSome_some, Bool.true_and] at hpk
      simp only [patternToks, optToks, List.cons_append, List.nil_append, List.append_assoc]
      exact .requirement (wordT "requires") (by decide) (headOk_spec hpk) kb (revent_printed tr htrig)

/-- the printed form of a printable property is a phrase of the property grammar, with the property as its tree -/
theorem rproperty_printed (fmt : Rat → String) (p : RawProperty) (hp : p.printable fmt = true) : RProperty p (p.toks fmt) := by
  have hp' := hp
  simp only [RawProperty.printable, Bool.and_eq_true] at hp'
  obtain ⟨⟨⟨⟨⟨⟨⟨hmd, htb⟩, _⟩, hact⟩, hterm⟩, _⟩, hshape⟩, _⟩ := hp'
  have := RProperty.mk (symT ":") (rmeta_printed p.metadata hmd) (rscope_printed p hact hterm hshape) (by decide)
    (rpattern_printed fmt p hp) (rtime_printed fmt p.maxTime htb)
  simpa only [RawProperty.toks, List.append_assoc, List.cons_append, List.nil_append] using this

theorem parse_property_toks_roundtrip (fmt : Rat → String) (p : RawProperty) (hp : p.printable fmt = true) :
    parsePropertyToks (p.toks fmt) = .ok p :=
  parsePropertyToks_of (rproperty_whole (rproperty_printed fmt p hp))

/-! ## specification files -/

def specToks (fmt : Rat → String) : List RawProperty → List Tok
  | [] => []
  | p :: ps => p.toks fmt ++ specToks fmt ps

/-- **C18 / C06 (token level)**: a file that is the printed form of k printable properties is read back as exactly those k
    properties, in order -/
theorem parse_file_toks_roundtrip (fmt : Rat → String) (ps : List RawProperty) (hne : ps ≠ []) (hp : ∀ p ∈ ps, p.printable fmt = true) :
    parseFileToks (specToks fmt ps) = .ok ps := by
  -- the printed file is the concatenation of the printed properties, each of which parses on its own
  have hts : ∀ ps : List RawProperty, fileToks (ps.map fun p => (p.toks fmt, p)) = specToks fmt ps := by
    intro ps
    induction ps with
    | nil => rfl
    | cons p ps ih => exact congrArg (p.toks fmt ++ ·) ih
  have := parseFileToks_concat (ps.map fun p => (p.toks fmt, p))
    (fun c hc => by
      obtain ⟨p, hm, rfl⟩ := List.mem_map.1 hc
      exact parse_property_toks_roundtrip fmt p (hp p hm))
    (fun h => hne (List.map_eq_nil_iff.1 h))
  rw [hts, List.map_map] at this
  exact this.trans (congrArg Except.ok (List.map_id'' (fun _ => rfl) ps))

end Hpl
