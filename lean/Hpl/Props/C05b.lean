import Hpl.Props.C05
/-!
# C05 — the rejection of a definite type clash is a *type error*

`clash_type_error`: a quantifier-free term whose operators and functions all exist (`Raw.plain`) and that contains a definite clash is
rejected with exactly the type-error class — the constructors of such a term cannot fail in any other way (`build_err_type`): unknown
names are the only source of the ValueError class and quantifier hygiene the only source of sanity errors.
-/
namespace Hpl

mutual
/-- no quantifier, and every operator and function name is in the tables -/
def Raw.plain : Raw → Bool
  | .lit .. | .this | .var _ => true
  | .set vs => RawList.plainL vs
  | .range lo hi _ _ => lo.plain && hi.plain
  | .quant .. => false
  | .un op a => (findUn op).isSome && a.plain
  | .bin op a b => (findBin op).isSome && a.plain && b.plain
  | .call f as => (findFun f).isSome && RawList.plainL as
  | .field m _ => m.plain
  | .index a i => a.plain && i.plain
def RawList.plainL : RawList → Bool
  | .nil => true
  | .cons e es => e.plain && RawList.plainL es
end

theorem known_err {α : Type} {o : Option α} {x : Err} (hk : o.isSome = true) (h : o = none ∧ x = .value ∨ x = .type) : x = .type :=
  h.resolve_left fun ⟨hn, _⟩ => by rw [hn] at hk; cases hk

mutual
theorem build_err_type : ∀ (r : Raw) (x : Err), r.plain = true → build r = .error x → x = .type
  | .lit .., x, _, h => by cases h
  | .this, x, _, h => by cases h
  | .var _, x, _, h => by cases h
  | .set vs, x, hp, h => bind_err_class (· = .type) (buildList_err_type vs x hp) (fun _ => mkSet_error) h
  | .range lo hi a b, x, hp, h =>
      have hp := Bool.and_eq_true_iff.1 hp
      bind_err_class (· = .type) (build_err_type lo x hp.1)
        (fun _ => bind_err_class (· = .type) (build_err_type hi x hp.2) (fun _ => mkRange_error)) h
  | .quant .., x, hp, _ => by cases hp
  | .un op a, x, hp, h =>
      have hp := Bool.and_eq_true_iff.1 hp
      bind_err_class (· = .type) (build_err_type a x hp.2) (fun _ h => known_err hp.1 (mkUn_error h)) h
  | .bin op a b, x, hp, h =>
      have hp := Bool.and_eq_true_iff.1 hp
      have hp1 := Bool.and_eq_true_iff.1 hp.1
      bind_err_class (· = .type) (build_err_type a x hp1.2)
        (fun _ => bind_err_class (· = .type) (build_err_type b x hp.2) (fun _ h => known_err hp1.1 (mkBin_error h))) h
  | .call f args, x, hp, h =>
      have hp := Bool.and_eq_true_iff.1 hp
      bind_err_class (· = .type) (buildList_err_type args x hp.2) (fun _ h => known_err hp.1 (mkCall_error h)) h
  | .field m n, x, hp, h => bind_err_class (· = .type) (build_err_type m x hp) (fun _ => mkFieldT_error) h
  | .index a i, x, hp, h =>
      have hp := Bool.and_eq_true_iff.1 hp
      bind_err_class (· = .type) (build_err_type a x hp.1)
        (fun _ => bind_err_class (· = .type) (build_err_type i x hp.2) (fun _ => mkIndexT_error)) h
theorem buildList_err_type : ∀ (rs : RawList) (x : Err), RawList.plainL rs = true → buildList rs = .error x → x = .type
  | .nil, x, _, h => by cases h
  | .cons r rs, x, hp, h =>
      have hp := Bool.and_eq_true_iff.1 hp
      bind_err_class (· = .type) (build_err_type r x hp.1)
        (fun _ => bind_err_class (· = .type) (buildList_err_type rs x hp.2) (fun _ h => by cases h)) h
end

/-- **C05**: a quantifier-free term over known operators and functions that contains a definite clash is rejected with a type error -/
theorem clash_type_error (r : Raw) (hp : r.plain = true) (hc : HasClash r) : build r = .error .type := by
  cases h : build r with
  | ok e => exact absurd h (clash_rejected r hc e)
  | error x => rw [build_err_type r x hp h]

end Hpl
