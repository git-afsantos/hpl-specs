import Hpl.Model.Json
/-!
# C19 — the command-line tool's exit status and JSON output are faithful

Model: `cliMain` (`Hpl/Model/Json.lean`). The exit status is 0 exactly when the argument parses; a JSON document is
written exactly when `-o json` was given and the argument parses, and it is the field-for-field image of the AST:
every object carries exactly the attrs fields of its class, in declaration order (table G9, regenerated from the
classes on every run), enums are their values (table G8). The JSON value type has no non-finite numbers.
-/
namespace Hpl

/-- the argument parses (an inline property with `-p`, otherwise the text of a file that could be read) -/
def Parses (asProperty : Bool) (input : Option String) : Prop :=
  ∃ text, input = some text ∧
    if asProperty then (∃ p, parseProperty text = .ok p) else (∃ ps, parseSpecification text = .ok ps)

/-- **C19**: exit status 0 iff the argument parses -/
theorem cli_exit_zero_iff (asProperty wantJson : Bool) (input : Option String) :
    (cliMain asProperty wantJson input).exit = 0 ↔ Parses asProperty input := by
  unfold cliMain Parses
  cases input with
  | none => simp
  | some text =>
    simp only [Option.some.injEq, exists_eq_left']
    cases asProperty with
    | true =>
      simp only [↓reduceIte]
      cases h : parseProperty text <;> simp [Except.map]
    | false =>
      simp only [Bool.false_eq_true, ↓reduceIte]
      cases h : parseSpecification text <;> simp [Except.map]

/-- the exit status is 0 or 1 -/
theorem cli_exit_01 (asProperty wantJson : Bool) (input : Option String) :
    (cliMain asProperty wantJson input).exit = 0 ∨ (cliMain asProperty wantJson input).exit = 1 := by
  unfold cliMain
  cases input with
  | none => simp
  | some text => simp only; split <;> simp

/-- **C19**: a JSON document is written iff `-o json` was given and the exit status is 0 (none otherwise) -/
theorem cli_json_iff (asProperty wantJson : Bool) (input : Option String) :
    (cliMain asProperty wantJson input).json.isSome = true ↔ wantJson = true ∧ (cliMain asProperty wantJson input).exit = 0 := by
  unfold cliMain
  cases input with
  | none => simp
  | some text =>
    simp only
    split
    · cases wantJson <;> simp
    · simp

/-- **C19**: the document is the image of the AST the parser returns -/
theorem cli_json_is_ast (wantJson : Bool) (text : String) :
    (∀ p, parseProperty text = .ok p → (cliMain true wantJson (some text)).json = if wantJson then some p.toJson else none) ∧
    (∀ ps, parseSpecification text = .ok ps → (cliMain false wantJson (some text)).json = if wantJson then some (specToJson ps) else none) := by
  constructor <;> intro p h <;> simp [cliMain, h, Except.map]

/-! ## field for field (tables G8, G9) -/

def fieldsOf (cls : String) : Option (List String) := (Gen.attrsFields.find? (·.1 == cls)).map (·.2)

def Expr.className : Expr → String
  | .lit .. => "HplLiteral" | .this _ => "HplThisMessage" | .var .. => "HplVarReference" | .set .. => "HplSet"
  | .range .. => "HplRange" | .quant .. => "HplQuantifier" | .un .. => "HplUnaryOperator" | .bin .. => "HplBinaryOperator"
  | .call .. => "HplFunctionCall" | .field .. => "HplFieldAccess" | .index .. => "HplArrayAccess"

theorem find?_fst_of_nodup {β : Type} : ∀ {l : List (String × β)} {k : String} {v : β},
    (l.map (·.1)).Nodup → (k, v) ∈ l → l.find? (·.1 == k) = some (k, v)
  | (k', v') :: l, k, v, hn, hm => by
      rw [List.map_cons, List.nodup_cons] at hn
      rcases List.mem_cons.1 hm with h | h
      · cases h
        simp
      · have hk : (k' == k) = false := beq_false_of_ne fun hk => hn.1 (hk ▸ List.mem_map_of_mem (f := (·.1)) h)
        simp [hk, find?_fst_of_nodup hn.2 h]

/-- class names are unique in the table: the only place where class names are compared; the theorems below need
    membership only -/
theorem attrsFields_nodup : (Gen.attrsFields.map (·.1)).Nodup := by
  simp only [Gen.attrsFields, List.map_cons, List.map_nil, List.nodup_cons, List.mem_cons, List.not_mem_nil, String.reduceEq,
    or_self, not_false_eq_true, true_and, List.nodup_nil]

/-- used below with `repeat constructor` for the hypothesis: `List.Mem.tail` down the table to the entry, `List.Mem.head` there -/
theorem fieldsOf_mem {c : String} {fs : List String} (h : (c, fs) ∈ Gen.attrsFields) : fieldsOf c = some fs := by
  rw [fieldsOf, find?_fst_of_nodup attrsFields_nodup h]
  rfl

/-- every expression node is an object with exactly the attrs fields of its class, in order -/
theorem expr_fields (e : Expr) : e.toJson.keys = fieldsOf e.className := by
  cases e <;> exact (fieldsOf_mem (by repeat constructor)).symm

theorem pred_fields (p : Pred) : p.toJson.keys =
    fieldsOf (match p with | .expr _ => "HplPredicateExpression" | .vtrue => "HplVacuousTruth" | .vfalse => "HplContradiction") := by
  cases p <;> exact (fieldsOf_mem (by repeat constructor)).symm

theorem event_fields (e : Event) : e.toJson.keys =
    fieldsOf (match e with | .simple .. => "HplSimpleEvent" | .disj .. => "HplEventDisjunction") := by
  cases e <;> exact (fieldsOf_mem (by repeat constructor)).symm

theorem scope_fields (s : Scope) : s.toJson.keys = fieldsOf "HplScope" :=
  (fieldsOf_mem (by repeat constructor)).symm
theorem pattern_fields (p : Pattern) : p.toJson.keys = fieldsOf "HplPattern" :=
  (fieldsOf_mem (by repeat constructor)).symm
theorem property_fields (p : Property) : p.toJson.keys = fieldsOf "HplProperty" :=
  (fieldsOf_mem (by repeat constructor)).symm
theorem spec_fields (ps : List Property) : (specToJson ps).keys = fieldsOf "HplSpecification" :=
  (fieldsOf_mem (by repeat constructor)).symm
theorem undef_fields (d : UnDef) : d.toJson.keys = fieldsOf "UnaryOperatorDefinition" :=
  (fieldsOf_mem (by repeat constructor)).symm
theorem bindef_fields (d : BinDef) : d.toJson.keys = fieldsOf "BinaryOperatorDefinition" :=
  (fieldsOf_mem (by repeat constructor)).symm
theorem fundef_fields (d : FunDef) : d.toJson.keys = fieldsOf "FunctionDefinition" :=
  (fieldsOf_mem (by repeat constructor)).symm
theorem sig_fields (s : Sig) : s.toJson.keys = fieldsOf "FunctionSignature" :=
  (fieldsOf_mem (by repeat constructor)).symm

/-- enums are printed as the values of the enum classes (table G8): every member of the model's kinds has an entry in the
    table, the entries are the members exactly, and distinct members carry distinct values (so the printed number identifies the
    member); the numbering itself is not constrained -/
theorem G8_enum_values :
    (∀ k ∈ ScopeKind.all, (Gen.scopeTypeValues.lookup k.pyName).isSome = true) ∧ Gen.scopeTypeValues.length = ScopeKind.all.length ∧
    (Gen.scopeTypeValues.map (·.1)).Nodup ∧ (Gen.scopeTypeValues.map (·.2)).Nodup ∧
    (∀ k ∈ PatternKind.all, (Gen.patternTypeValues.lookup k.pyName).isSome = true) ∧ Gen.patternTypeValues.length = PatternKind.all.length ∧
    (Gen.patternTypeValues.map (·.1)).Nodup ∧ (Gen.patternTypeValues.map (·.2)).Nodup ∧
    Gen.eventTypeValues.map (·.1) = ["PUBLISH"] ∧
    (∀ p ∈ Gen.quantifierValues, p ∈ [(quantValue .all, quantValue .all), (quantValue .some, quantValue .some)]) ∧
    Gen.quantifierValues.length = 2 ∧ (Gen.quantifierValues.map (·.1)).Nodup := by decide

/-- the metadata of a property is printed key by key, in order -/
theorem property_metadata (p : Property) :
    ∃ rest, p.toJson = .obj (("metadata", .obj (p.metadata.map (fun kv => (kv.1, Json.str kv.2)))) :: rest) := ⟨_, rfl⟩

/-- non-finite literal values (INF, NAN) are printed as `null`, finite ones as themselves -/
theorem nonfinite_null (v : LitVal) : v.toJson = .null ↔ (v = .inf ∨ v = .ninf ∨ v = .nan) := by
  cases v <;> simp [LitVal.toJson]

/-- an unbounded pattern prints `max_time` as `null` -/
theorem unbounded_null (p : Pattern) (h : p.maxTime = none) :
    ∃ pre, p.toJson = .obj (pre ++ [("max_time", .null)]) := by
  refine ⟨[("metadata", emptyMeta), ("pattern_type", .int (patternTypeValue p.kind)), ("behaviour", p.behaviour.toJson),
           ("trigger", optEventJson p.trigger), ("min_time", .num p.minTime)], ?_⟩
  simp [Pattern.toJson, h]

end Hpl
