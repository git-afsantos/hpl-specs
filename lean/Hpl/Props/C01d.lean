import Hpl.Props.C01c
/-!
# C01 — the expression parser reads tokens only through their keys (layout independence at token level)

`parse_key_invariant`: two token sequences that agree on `tokKey` (kind, text, and for words whether they directly follow a word
character) are parsed to the same result — the same tree, or both rejected — by every function of the recursive-descent parser, with
any fuel. In particular the flags recording white space between tokens (`glued`) never influence the tree.
-/
namespace Hpl

/-- agreement on the keys -/
def KEq (ts' ts : List Tok) : Prop := ts'.map tokKey = ts.map tokKey

theorem KEq.nil_left {ts : List Tok} (h : KEq [] ts) : ts = [] := by
  unfold KEq at h; simpa using h.symm
theorem KEq.cons_inv {t' : Tok} {r' ts : List Tok} (h : KEq (t' :: r') ts) : ∃ t r, ts = t :: r ∧ tokKey t' = tokKey t ∧ KEq r' r := by
  unfold KEq at h
  cases ts with
  | nil => simp at h
  | cons t r => simp only [List.map_cons, List.cons.injEq] at h; exact ⟨t, r, rfl, h.1, h.2⟩
theorem KEq.cons {t' t : Tok} {r' r : List Tok} (hk : tokKey t' = tokKey t) (h : KEq r' r) : KEq (t' :: r') (t :: r) := by
  unfold KEq at *; simp [hk, h]
theorem KEq.refl (ts : List Tok) : KEq ts ts := rfl
@[elab_as_elim] theorem KEq.elim {motive : List Tok → List Tok → Prop} {ts' ts : List Tok} (h : KEq ts' ts) (nil : motive [] [])
    (cons : ∀ t' t r' r, tokKey t' = tokKey t → KEq r' r → motive (t' :: r') (t :: r)) : motive ts' ts := by
  cases ts' with
  | nil => cases h.nil_left; exact nil
  | cons t' r' =>
    obtain ⟨t, r, rfl, hk, hr⟩ := h.cons_inv
    exact cons t' t r' r hk hr

/-- same outcome: the same tree with key-equal remaining input, or both errors -/
def RRel {α : Type} (x y : PR (α × List Tok)) : Prop :=
  match x, y with
  | .ok (r, rs), .ok (r', rs') => r = r' ∧ KEq rs rs'
  | .error _, .error _ => True
  | _, _ => False

theorem RRel.ok {α : Type} {r : α} {rs rs' : List Tok} (h : KEq rs rs') : RRel (.ok (r, rs)) (.ok (r, rs')) := ⟨rfl, h⟩
theorem RRel.err {α : Type} : RRel (perr : PR (α × List Tok)) perr := trivial

theorem RRel.bind {α β : Type} {x y : PR (α × List Tok)} {k k' : α × List Tok → PR (β × List Tok)} (h : RRel x y)
    (hk : ∀ r rs rs', KEq rs rs' → RRel (k (r, rs)) (k' (r, rs'))) : RRel (x >>= k) (y >>= k') := by
  cases x with
  | error e => cases y with
    | error e' => trivial
    | ok b => exact absurd h (by simp [RRel])
  | ok a => cases y with
    | error e' => exact absurd h (by simp [RRel])
    | ok b =>
      obtain ⟨r, rs⟩ := a; obtain ⟨r', rs'⟩ := b
      obtain ⟨rfl, hrs⟩ := h
      exact hk r rs rs' hrs

end Hpl

namespace Hpl

structure SimAt (f : Nat) : Prop where
  cond : ∀ ts' ts, KEq ts' ts → RRel (pCondition f ts') (pCondition f ts)
  condLoop : ∀ a ts' ts, KEq ts' ts → RRel (pCondLoop f a ts') (pCondLoop f a ts)
  disj : ∀ ts' ts, KEq ts' ts → RRel (pDisjunction f ts') (pDisjunction f ts)
  disjLoop : ∀ a ts' ts, KEq ts' ts → RRel (pDisjLoop f a ts') (pDisjLoop f a ts)
  conj : ∀ ts' ts, KEq ts' ts → RRel (pConjunction f ts') (pConjunction f ts)
  conjLoop : ∀ a ts' ts, KEq ts' ts → RRel (pConjLoop f a ts') (pConjLoop f a ts)
  logic : ∀ ts' ts, KEq ts' ts → RRel (pLogic f ts') (pLogic f ts)
  atomicCond : ∀ ts' ts, KEq ts' ts → RRel (pAtomicCondition f ts') (pAtomicCondition f ts)
  expr : ∀ ts' ts, KEq ts' ts → RRel (pExpr f ts') (pExpr f ts)
  exprLoop : ∀ a ts' ts, KEq ts' ts → RRel (pExprLoop f a ts') (pExprLoop f a ts)
  term : ∀ ts' ts, KEq ts' ts → RRel (pTerm f ts') (pTerm f ts)
  termLoop : ∀ a ts' ts, KEq ts' ts → RRel (pTermLoop f a ts') (pTermLoop f a ts)
  factor : ∀ ts' ts, KEq ts' ts → RRel (pFactor f ts') (pFactor f ts)
  factorLoop : ∀ a ts' ts, KEq ts' ts → RRel (pFactorLoop f a ts') (pFactorLoop f a ts)
  exponent : ∀ ts' ts, KEq ts' ts → RRel (pExponent f ts') (pExponent f ts)
  atomicValue : ∀ ts' ts, KEq ts' ts → RRel (pAtomicValue f ts') (pAtomicValue f ts)
  setTail : ∀ acc ts' ts, KEq ts' ts → RRel (pSetTail f acc ts') (pSetTail f acc ts)
  rangeBody : ∀ ex ts' ts, KEq ts' ts → RRel (pRangeBody f ex ts') (pRangeBody f ex ts)
  refTail : ∀ r ts' ts, KEq ts' ts → RRel (pRefTail f r ts') (pRefTail f r ts)

theorem RRel.ite {α : Type} {b b' : Bool} {x x' y y' : PR (α × List Tok)} (hb : b = b') (h : RRel x y) (h' : RRel x' y') :
    RRel (if b then x else x') (if b' then y else y') := by
  subst hb
  cases b
  · exact h'
  · exact h

theorem RRel.close {α : Type} {rs rs' : List Tok} (h : KEq rs rs') (s : String) {k k' : List Tok → PR (α × List Tok)}
    (hk : ∀ r r', KEq r r' → RRel (k r) (k' r')) :
    RRel (match (generalizing := false) rs with | c :: r => if isSym c s then k r else perr | [] => perr)
      (match (generalizing := false) rs' with | c :: r => if isSym c s then k' r else perr | [] => perr) := by
  refine h.elim RRel.err fun c' c r' r hkc hr => ?_
  exact RRel.ite (key_isSym hkc s) (hk r' r hr) RRel.err

theorem key_isLogicStart {t' t : Tok} (hk : tokKey t' = tokKey t) : (isKw t' "forall" || isKw t' "exists") = (isKw t "forall" || isKw t "exists") := by
  rw [key_isKw hk, key_isKw hk]

theorem simAt_zero : SimAt 0 := by
  constructor <;> intros <;> exact RRel.err

theorem level_sim {f k : Nat} (hk : isLoopLevel k = true) (ihSub : ∀ ts' ts, KEq ts' ts → RRel (pL (k + 1) f ts') (pL (k + 1) f ts))
    (ihLoop : ∀ a ts' ts, KEq ts' ts → RRel (loopL k f a ts') (loopL k f a ts)) :
    (∀ ts' ts, KEq ts' ts → RRel (pL k (f + 1) ts') (pL k (f + 1) ts)) ∧
    (∀ a ts' ts, KEq ts' ts → RRel (loopL k (f + 1) a ts') (loopL k (f + 1) a ts)) := by
  refine ⟨fun ts' ts h => ?_, fun a ts' ts h => ?_⟩
  · rw [pL_loop_eq hk, pL_loop_eq hk]
    exact RRel.bind (ihSub ts' ts h) (fun a rs rs' hrs => ihLoop a rs rs' hrs)
  · rw [loopL_eq hk, loopL_eq hk]
    refine h.elim (RRel.ok (KEq.refl _)) fun t' t r' r hkt hr => ?_
    refine RRel.ite (key_opTest hkt k) (RRel.bind (ihSub r' r hr) (fun b rs rs' hrs => ?_)) (RRel.ok (KEq.cons hkt hr))
    rw [key_text hkt]
    exact ihLoop _ rs rs' hrs

theorem simAt_succ (f : Nat) (ih : SimAt f) : SimAt (f + 1) where
  cond := (level_sim (k := 0) rfl ih.disj ih.condLoop).1
  condLoop := (level_sim (k := 0) rfl ih.disj ih.condLoop).2
  disj := (level_sim (k := 1) rfl ih.conj ih.disjLoop).1
  disjLoop := (level_sim (k := 1) rfl ih.conj ih.disjLoop).2
  conj := (level_sim (k := 2) rfl ih.logic ih.conjLoop).1
  conjLoop := (level_sim (k := 2) rfl ih.logic ih.conjLoop).2
  expr := (level_sim (k := 5) rfl ih.term ih.exprLoop).1
  exprLoop := (level_sim (k := 5) rfl ih.term ih.exprLoop).2
  term := (level_sim (k := 6) rfl ih.factor ih.termLoop).1
  termLoop := (level_sim (k := 6) rfl ih.factor ih.termLoop).2
  factor := (level_sim (k := 7) rfl ih.exponent ih.factorLoop).1
  factorLoop := (level_sim (k := 7) rfl ih.exponent ih.factorLoop).2
  logic := fun ts' ts h => by
    refine h.elim RRel.err fun t' t r' r hk hr => ?_
    refine RRel.ite (key_isKw hk _) (RRel.bind (ih.logic r' r hr) (fun a rs rs' hrs => RRel.ok hrs))
      (RRel.ite (key_isLogicStart hk) ?_ (ih.atomicCond _ _ (KEq.cons hk hr)))
    refine hr.elim RRel.err fun v' v r2' r2 hkv hr2 => ?_
    refine hr2.elim RRel.err fun k' k r3' r3 hkk hr3 => ?_
    simp only [key_kind hkv, key_text hkv, key_isKw hkk, key_text hk]
    exact RRel.ite rfl (RRel.bind (ih.atomicValue r3' r3 hr3) (fun d rs rs' hrs =>
      RRel.close hrs ":" (fun r4' r4 hr4 => RRel.bind (ih.logic r4' r4 hr4) (fun b rs2 rs2' hrs2 => RRel.ok hrs2)))) RRel.err
  atomicCond := fun ts' ts h => by
    refine RRel.bind (ih.expr ts' ts h) (fun a rs rs' hrs => ?_)
    refine hrs.elim (RRel.ok (KEq.refl _)) fun t' t r' r hk hr => ?_
    simp only [key_kind hk, key_text hk]
    exact RRel.ite rfl (RRel.bind (ih.expr r' r hr) (fun b rs2 rs2' hrs2 => RRel.ok hrs2))
      (RRel.ite (key_isKw hk _) (RRel.bind (ih.expr r' r hr) (fun b rs2 rs2' hrs2 => RRel.ok hrs2)) (RRel.ok (KEq.cons hk hr)))
  exponent := fun ts' ts h => by
    refine h.elim RRel.err fun t' t r' r hk hr => ?_
    exact RRel.ite (key_isSym hk _) (RRel.bind (ih.exponent r' r hr) (fun a rs rs' hrs => RRel.ok hrs))
      (RRel.ite (key_isSym hk _) (RRel.bind (ih.cond r' r hr) (fun a rs rs' hrs => RRel.close hrs ")" (fun _ _ h2 => RRel.ok h2)))
        (ih.atomicValue _ _ (KEq.cons hk hr)))
  atomicValue := fun ts' ts h => by
    refine h.elim RRel.err fun t' t r' r hk hr => ?_
    simp only [pAtomicValue, key_kind hk, key_text hk]
    cases hkind : t.kind with
    | str => exact RRel.ok hr
    | num =>
      cases decimalValue t.text with
      | some v => exact RRel.ok hr
      | none => exact RRel.err
    | var => exact ih.refTail _ _ _ hr
    | word =>
      have hnc : RRel (match numberConstant t.text with | some v => Except.ok (Raw.lit t.text v, r') | none => perr)
          (match numberConstant t.text with | some v => Except.ok (Raw.lit t.text v, r) | none => perr) := by
        cases numberConstant t.text with
        | some v => exact RRel.ok hr
        | none => exact RRel.err
      refine RRel.ite rfl RRel.err (RRel.ite rfl (RRel.ok hr) (RRel.ite rfl (RRel.ok hr)
        (RRel.ite (by rw [key_afterWord hk hkind]) hnc ?_)))
      refine hr.elim (RRel.ok (KEq.refl _)) fun o' o r2' r2 hko hr2 => ?_
      exact RRel.ite (key_isSym hko _) (RRel.bind (ih.expr r2' r2 hr2) (fun a rs rs' hrs => RRel.close hrs ")" (fun _ _ h3 => RRel.ok h3)))
        (ih.refTail _ _ _ (KEq.cons hko hr2))
    | sym =>
      exact RRel.ite rfl (RRel.bind (ih.expr r' r hr) (fun a rs rs' hrs => ih.setTail _ rs rs' hrs))
        (RRel.ite rfl (ih.rangeBody _ _ _ hr) (RRel.ite rfl (ih.rangeBody _ _ _ hr) RRel.err))
  setTail := fun acc ts' ts h => by
    refine h.elim RRel.err fun t' t r' r hk hr => ?_
    exact RRel.ite (key_isSym hk _) (RRel.ok hr)
      (RRel.ite (key_isSym hk _) (RRel.bind (ih.expr r' r hr) (fun a rs rs' hrs => ih.setTail _ rs rs' hrs)) RRel.err)
  rangeBody := fun ex ts' ts h => by
    refine RRel.bind (ih.expr ts' ts h) (fun lo rs rs' hrs => ?_)
    refine hrs.elim RRel.err fun t' t r' r hk hr => ?_
    refine RRel.ite (key_isKw hk _) (RRel.bind (ih.expr r' r hr) (fun hi rs2 rs2' hrs2 => ?_)) RRel.err
    refine hrs2.elim RRel.err fun c' c r2' r2 hkc hr2 => ?_
    exact RRel.ite (key_isSym hkc _) (RRel.ok hr2) (RRel.ite (key_isSym hkc _) (RRel.ok hr2) RRel.err)
  refTail := fun x ts' ts h => by
    refine h.elim (RRel.ok (KEq.refl _)) fun t' t r' r hk hr => ?_
    refine RRel.ite (key_isSym hk _) ?_ (RRel.ite (key_isSym hk _)
      (RRel.bind (ih.expr r' r hr) (fun i rs rs' hrs => RRel.close hrs "]" (fun _ _ h2 => ih.refTail _ _ _ h2))) (RRel.ok (KEq.cons hk hr)))
    refine hr.elim RRel.err fun n' n r2' r2 hkn hr2 => ?_
    simp only [key_kind hkn, key_text hkn]
    exact RRel.ite rfl (ih.refTail _ _ _ hr2) RRel.err

end Hpl

namespace Hpl

/-- **every function of the expression parser reads tokens only through their keys**, with any fuel -/
theorem parse_key_invariant : ∀ f, SimAt f
  | 0 => simAt_zero
  | f + 1 => simAt_succ f (parse_key_invariant f)

theorem KEq.length {ts' ts : List Tok} (h : KEq ts' ts) : ts'.length = ts.length := by
  have := congrArg List.length h; simpa using this

theorem KEq.isEmpty {ts' ts : List Tok} (h : KEq ts' ts) : ts'.isEmpty = ts.isEmpty :=
  h.elim rfl fun _ _ _ _ _ _ => rfl

/-- **C01 (layout independence at token level)**: token sequences that agree on kind, text and word adjacency parse to the same
    tree, or are both rejected -/
theorem parseExpressionToks_sim {ts' ts : List Tok} (h : KEq ts' ts) : parseExpressionToks ts' = parseExpressionToks ts := by
  unfold parseExpressionToks parseFuel
  rw [h.length]
  have := (parse_key_invariant (20 * ts.length + 20)).cond ts' ts h
  cases h1 : pCondition (20 * ts.length + 20) ts' with
  | error e =>
    cases h2 : pCondition (20 * ts.length + 20) ts with
    | error e' => cases e; cases e'; rfl
    | ok b => rw [h1, h2] at this; exact absurd this (by simp [RRel])
  | ok a =>
    cases h2 : pCondition (20 * ts.length + 20) ts with
    | error e' => rw [h1, h2] at this; exact absurd this (by simp [RRel])
    | ok b =>
      rw [h1, h2] at this
      obtain ⟨r, rs⟩ := a; obtain ⟨r', rs'⟩ := b
      obtain ⟨rfl, hrs⟩ := this
      simp only [bind, Except.bind, hrs.isEmpty]

theorem pPredicate_sim {ts' ts : List Tok} (h : KEq ts' ts) : RRel (pPredicate ts') (pPredicate ts) := by
  refine h.elim RRel.err fun t' t r' r hk hr => ?_
  refine RRel.ite (key_isSym hk _) ?_ RRel.err
  simp only [parseFuel, List.length_cons, hr.length]
  exact RRel.bind ((parse_key_invariant _).cond r' r hr) (fun a rs rs' hrs => RRel.close hrs "}" (fun _ _ h2 => RRel.ok h2))

end Hpl
