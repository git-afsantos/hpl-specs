import Hpl.Props.C06e
import Hpl.Spec.WellTyped
import Hpl.Lemmas.Eval
/-!
# C06 — text-level round trip: `parseExpression (print e) = e` for every tree the constructors build from a printable syntax tree

`build` only decorates a syntax tree with type sets (`build_erase`), the printer ignores them (`print_erase`), the printed text of a
printable tree is `Raw.chars` (`print_chars`); with `parse_printed` (scanner + grammar) this closes the loop on *strings*.
-/
namespace Hpl

mutual
/-- forget the type sets -/
def Expr.erase : Expr → Raw
  | .lit _ tok v => .lit tok v
  | .this _ => .this
  | .var _ x => .var x
  | .set _ vs => .set (ExprList.eraseL vs)
  | .range _ lo hi a b => .range lo.erase hi.erase a b
  | .quant _ q x d b => .quant q x d.erase b.erase
  | .un _ op a => .un op a.erase
  | .bin _ op a b => .bin op a.erase b.erase
  | .call _ f as => .call f (ExprList.eraseL as)
  | .field _ m n => .field m.erase n
  | .index _ a i => .index a.erase i.erase
def ExprList.eraseL : ExprList → RawList
  | .nil => .nil
  | .cons e es => .cons e.erase (ExprList.eraseL es)
end

@[simp] theorem erase_withTy (t : DataType) (e : Expr) : (e.withTy t).erase = e.erase := by
  cases e <;> rfl

theorem castE_erase {e e' : Expr} {t : DataType} (h : castE e t = .ok e') : e'.erase = e.erase := by
  obtain ⟨t', rfl⟩ := castE_withTy h
  exact erase_withTy t' e

theorem castList_erase (t : DataType) : ∀ (es es' : ExprList), castList t es = .ok es' → ExprList.eraseL es' = ExprList.eraseL es
  | .nil, es', h => by cases h; rfl
  | .cons e es, es', h => by
      obtain ⟨e1, he, h⟩ := bind_ok h
      obtain ⟨es1, hes, h⟩ := bind_ok h
      cases h
      show RawList.cons e1.erase (ExprList.eraseL es1) = RawList.cons e.erase (ExprList.eraseL es)
      rw [castE_erase he, castList_erase t es es1 hes]

theorem castArgs_erase : ∀ (es : ExprList) (ts : List DataType) (es' : ExprList), castArgs es ts = .ok es' → es.length ≤ ts.length →
    ExprList.eraseL es' = ExprList.eraseL es
  | .nil, ts, es', h, _ => by cases ts <;> (cases h; rfl)
  | .cons e es, [], es', _, hl => nomatch hl
  | .cons e es, t :: ts, es', h, hl => by
      obtain ⟨e1, he, h⟩ := bind_ok h
      obtain ⟨es1, hes, h⟩ := bind_ok h
      cases h
      show RawList.cons e1.erase (ExprList.eraseL es1) = RawList.cons e.erase (ExprList.eraseL es)
      rw [castE_erase he, castArgs_erase es ts es1 hes (Nat.le_of_succ_le_succ hl)]

theorem build_eraseL : (∀ (r : Raw) (e : Expr), build r = .ok e → e.erase = r) ∧
    (∀ (rs : RawList) (es : ExprList), buildList rs = .ok es → ExprList.eraseL es = rs) := by
  refine build_induct (P := fun r e => e.erase = r) (PL := fun rs es => ExprList.eraseL es = rs)
    (fun _ _ => rfl) rfl (fun _ => rfl) ?_ ?_ ?_ ?_ ?_ ?_ ?_ ?_ rfl (fun _ _ ih ihs => congr (congrArg RawList.cons ih) ihs)
  · intro vs es e _ ih h
    obtain ⟨vs', hvs, rfl⟩ := mkSet_ok h
    exact congrArg Raw.set ((castList_erase _ _ _ hvs).trans ih)
  · intro lo hi lo' hi' a b e _ _ ihl ihh h
    obtain ⟨l1, h1, hl, hh, rfl⟩ := mkRange_ok h
    exact congr (congrArg (fun x y => Raw.range x y a b) ((castE_erase hl).trans ihl)) ((castE_erase hh).trans ihh)
  · intro q x d b d' b' e _ _ ihd ihb h
    obtain ⟨td, tb, rfl⟩ := mkQuant_narrow h
    exact congr (congrArg (Raw.quant q x) ((erase_withTy td d').trans ihd)) ((erase_withTy tb b').trans ihb)
  · intro op a a' e _ ih h
    obtain ⟨t, ta, rfl⟩ := mkUn_narrow h
    exact congrArg (Raw.un op) ((erase_withTy ta a').trans ih)
  · intro op a b a' b' e _ _ iha ihb h
    obtain ⟨t, ta, tb, rfl⟩ := mkBin_narrow h
    exact congr (congrArg (Raw.bin op) ((erase_withTy ta a').trans iha)) ((erase_withTy tb b').trans ihb)
  · intro f args as e _ ih h
    obtain ⟨t, as', rfl, ts, hts, hl⟩ := mkCall_narrow h
    exact congrArg (Raw.call f) ((castArgs_erase _ _ _ hts hl).trans ih)
  · intro m n m' e _ ih h
    obtain ⟨m1, hm, rfl⟩ := mkFieldT_ok h
    exact congrArg (Raw.field · n) ((castE_erase hm).trans ih)
  · intro a i a' i' e _ _ iha ihi h
    obtain ⟨a1, i1, ha, hi, rfl⟩ := mkIndexT_ok h
    exact congr (congrArg Raw.index ((castE_erase ha).trans iha)) ((castE_erase hi).trans ihi)

/-- **`build` only adds type sets** -/
theorem build_erase : ∀ (r : Raw) (e : Expr), build r = .ok e → e.erase = r := build_eraseL.1
theorem buildList_erase : ∀ (rs : RawList) (es : ExprList), buildList rs = .ok es → ExprList.eraseL es = rs := build_eraseL.2

mutual
/-- the printer does not look at type sets -/
theorem print_erase : ∀ (e : Expr), e.print = e.erase.print
  | .lit .. => rfl
  | .this _ => rfl
  | .var .. => rfl
  | .set _ vs => by
      show _ ++ ExprList.printSep vs ++ _ = _
      rw [printSep_erase vs]
      rfl
  | .range _ lo hi _ _ => by
      show _ ++ lo.print ++ _ ++ hi.print ++ _ = _
      rw [print_erase lo, print_erase hi]
      rfl
  | .quant _ q x d b => by
      show _ ++ d.print ++ _ ++ b.print ++ _ = _
      rw [print_erase d, print_erase b]
      rfl
  | .un _ _ a => by
      show _ ++ a.print ++ _ = _
      rw [print_erase a]
      rfl
  | .bin _ _ a b => by
      show _ ++ a.print ++ _ ++ _ ++ _ ++ b.print ++ _ = _
      rw [print_erase a, print_erase b]
      rfl
  | .call _ _ as => by
      show _ ++ ExprList.printSep as ++ _ = _
      rw [printSep_erase as]
      rfl
  | .field _ m _ => by
      show (if m.print == "" then _ else m.print ++ _ ++ _) = _
      rw [print_erase m]
      rfl
  | .index _ a i => by
      show a.print ++ _ ++ i.print ++ _ = _
      rw [print_erase a, print_erase i]
      rfl
theorem printSep_erase : ∀ (es : ExprList), ExprList.printSep es = RawList.printSep (ExprList.eraseL es)
  | .nil => rfl
  | .cons e .nil => print_erase e
  | .cons e (.cons e' es) => by
      show e.print ++ _ ++ ExprList.printSep (.cons e' es) = _
      rw [print_erase e, printSep_erase (.cons e' es)]
      rfl
end

theorem chars_ne_nil : ∀ (r : Raw), r.isRef = true → r.printable = true → r.chars ≠ []
  | .var x, _, _ => by simp [Raw.chars]
  | .field m n, _, hp => by
      have hn : isCName n = true := by
        by_cases hm : m = .this
        · subst hm
          have := printable_own hp
          simp only [isName, Bool.and_eq_true] at this
          exact this.1
        · exact (printable_field (isRef_of_printable_field hm hp) hp).1
      obtain ⟨c, w, hnl, _, _⟩ := isCName_cons hn
      simp [Raw.chars, hnl]
  | .index a i, _, _ => by simp [Raw.chars]
  | .lit .., h, _ | .this, h, _ | .set .., h, _ | .range .., h, _ | .quant .., h, _ | .un .., h, _ | .bin .., h, _ | .call .., h, _ => by
      simp [Raw.isRef] at h

theorem lp_toList : ("(" : String).toList = ['('] := by decide
theorem rp_toList : (")" : String).toList = [')'] := by decide
theorem sp_toList : (" " : String).toList = [' '] := by decide

/-- the printed form of a field access on a (non-`this`) reference chain -/
theorem printField_chars (m : Raw) (n : String) (hm : m.isRef = true) (hp : (Raw.field m n).printable = true)
    (ih : m.print.toList = m.chars) : (Raw.field m n).print.toList = (Raw.field m n).chars := by
  have hne := chars_ne_nil m hm (printable_field hm hp).2
  have hs : (m.print == "") = false := by
    cases h : m.print == "" with
    | false => rfl
    | true =>
      have := eq_of_beq h
      rw [this] at ih
      exact absurd ih.symm hne
  rw [chars_field n hm]
  simp only [Raw.print, hs, Bool.false_eq_true, if_false, String.toList_append, ih]
  rw [show ("." : String).toList = ['.'] by decide]

mutual
/-- the printed text of a printable tree is `Raw.chars` -/
theorem print_chars : ∀ (r : Raw), r.printable = true → r.print.toList = r.chars
  | .lit .., _ => by simp [Raw.print, Raw.chars]
  | .this, hp => by simp [Raw.printable] at hp
  | .var x, _ => by
      simp only [Raw.print, Raw.chars, String.toList_append]
      rw [show ("@" : String).toList = ['@'] by decide]
  | .set vs, hp => by
      simp only [Raw.printable, Bool.and_eq_true] at hp
      simp only [Raw.print, Raw.chars, String.toList_append, printSep_chars vs hp.2]
      rw [show ("{" : String).toList = ['{'] by decide, show ("}" : String).toList = ['}'] by decide]
      simp only [List.append_assoc]
  | .range lo hi exLo exHi, hp => by
      simp only [Raw.printable, Bool.and_eq_true] at hp
      have ho : (if exLo then "![" else "[" : String).toList = if exLo then ['!', '['] else ['['] := by cases exLo <;> decide
      have hc : (if exHi then "]!" else "]" : String).toList = if exHi then [']', '!'] else [']'] := by cases exHi <;> decide
      simp only [Raw.print, Raw.chars, String.toList_append, print_chars lo hp.1, print_chars hi hp.2, ho, hc]
      rw [show (" to " : String).toList = [' '] ++ ("to".toList ++ [' ']) by decide]
      simp only [List.append_assoc]
  | .quant q x d b, hp => by
      simp only [Raw.printable, Bool.and_eq_true] at hp
      simp only [Raw.print, Raw.chars, String.toList_append, print_chars d hp.1.1.2, print_chars b hp.2]
      rw [show (" in " : String).toList = [' '] ++ ("in".toList ++ [' ']) by decide, show (": " : String).toList = [':'] ++ [' '] by decide,
        lp_toList, rp_toList, sp_toList]
      simp only [List.append_assoc]
      cases q <;> rfl
  | .un op a, hp => by
      simp only [Raw.printable, Bool.and_eq_true, Bool.or_eq_true, beq_iff_eq] at hp
      simp only [Raw.print, Raw.chars, String.toList_append, print_chars a hp.2, lp_toList, rp_toList]
      rcases hp.1 with rfl | rfl
      · rw [show lastIsAlpha "not" = true by decide]; simp
      · rw [show lastIsAlpha "-" = false by decide, show (("-" : String) == "not") = false by decide]; simp
  | .bin op a b, hp => by
      simp only [Raw.printable, Bool.and_eq_true] at hp
      simp only [Raw.print, Raw.chars, String.toList_append, print_chars a hp.1.2, print_chars b hp.2, lp_toList, rp_toList, sp_toList]
      simp only [List.append_assoc]
  | .call f (.cons a .nil), hp => by
      simp only [Raw.printable, Bool.and_eq_true] at hp
      simp only [Raw.print, Raw.chars, RawList.printSep, RawList.charsSep, String.toList_append, print_chars a hp.2, lp_toList, rp_toList]
      simp only [List.append_assoc]
  | .call f .nil, hp => by simp [Raw.printable] at hp
  | .call f (.cons _ (.cons _ _)), hp => by simp [Raw.printable] at hp
  | .field m n, hp => by
      by_cases hm : m = .this
      · subst hm
        rfl
      · have hr := isRef_of_printable_field hm hp
        exact printField_chars m n hr hp (print_chars m (printable_field hr hp).2)
  | .index a i, hp => by
      obtain ⟨_, hpa, hpi⟩ := printable_index hp
      simp only [Raw.print, Raw.chars, String.toList_append, print_chars a hpa, print_chars i hpi]
      rw [show ("[" : String).toList = ['['] by decide, show ("]" : String).toList = [']'] by decide]
      simp only [List.append_assoc]
theorem printSep_chars : ∀ (rs : RawList), RawList.printable rs = true → (RawList.printSep rs).toList = RawList.charsSep rs
  | .nil, _ => by simp [RawList.printSep, RawList.charsSep]
  | .cons e .nil, hp => by
      simp only [RawList.printable, Bool.and_eq_true] at hp
      simp only [RawList.printSep, RawList.charsSep, print_chars e hp.1]
  | .cons e (.cons e' es), hp => by
      simp only [RawList.printable, Bool.and_eq_true] at hp
      have ih := printSep_chars (.cons e' es) (by simp only [RawList.printable, Bool.and_eq_true]; exact hp.2)
      simp only [RawList.printSep, RawList.charsSep, String.toList_append, print_chars e hp.1] at ih ⊢
      rw [ih, show (", " : String).toList = [',', ' '] by decide]
      simp
end

/-- **C06 on strings, expressions**: if the constructors build `e` from a printable syntax tree whose literal tokens and variable
    names are scanned as single tokens, then parsing the text `e` prints gives `e` again. -/
theorem print_parse_roundtrip (r : Raw) (e : Expr) (hp : r.printable = true) (hl : r.lexOk) (hb : build r = .ok e) :
    parseExpression e.print = .ok e := by
  have h1 : e.print = String.ofList r.chars := by
    rw [print_erase e, build_erase r e hb, ← print_chars r hp, String.ofList_toList]
  rw [h1, parse_printed r hp hl, hb]

/-- ... and printing the result yields the same text again (immediate: it is the same tree) -/
theorem print_parse_print (r : Raw) (e e' : Expr) (hp : r.printable = true) (hl : r.lexOk) (hb : build r = .ok e)
    (h : parseExpression e.print = .ok e') : e'.print = e.print := by
  rw [print_parse_roundtrip r e hp hl hb] at h; cases h; rfl

end Hpl
