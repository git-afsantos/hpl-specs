import Hpl.Props.C09
import Hpl.Props.C07
/-!
# C09 — `split_and` raises ValueError only for a literally false conjunct

`Conj e x`: `x` is a conjunct of `e` as the work list sees it — `e` itself, or an operand of a conjunction that the pre-split transform
makes of a conjunct. `splitAnd_value_only_false`: if `split_and` fails with the ValueError class, a conjunct that is the literal
`False` was met; no constructor call inside the transform can produce that class (`presplit_err`: they fail with type / sanity
errors or the model's internal ones only). With `isFalseLit_truth` the input is then not satisfiable.
The same analysis (`presplit_error`) shows when the transform can run out of fuel: only below `3·|e| + 1`.
-/
namespace Hpl

theorem mkNot_err {a : Expr} {x : Err} (h : mkNot a = .error x) : x = .type :=
  (mkUn_error h).resolve_left fun hn => absurd hn.1 (by decide)

theorem mkBin_known_err {op : String} {a b : Expr} {x : Err} (hk : (findBin op).isSome = true) (h : mkBin op a b = .error x) : x = .type :=
  (mkBin_error h).resolve_left fun ⟨hn, _⟩ => by rw [hn] at hk; cases hk

theorem mkAnd_err {a b : Expr} {x : Err} (h : mkAnd a b = .error x) : x = .type := mkBin_known_err (by decide) h
theorem mkOr_err {a b : Expr} {x : Err} (h : mkOr a b = .error x) : x = .type := mkBin_known_err (by decide) h

theorem mkForall_err {v : String} {d p : Expr} {x : Err} (h : mkForall v d p = .error x) : x = .type ∨ x = .sanity := mkQuant_err h

theorem emptyTest_err {d : Expr} {x : Err} (h : emptyTest d = .error x) : x = .type := by
  rcases bind_err h with h | ⟨_, _, h⟩
  · exact (mkCall_error h).resolve_left fun hn => absurd hn.1 (by decide)
  · exact mkBin_known_err (by decide) h

theorem splitHalf_err {v : String} {d a : Expr} {x : Err} (h : splitHalf v d a = .error x) : x = .type ∨ x = .sanity := by
  rcases ite_eq h with ⟨_, h⟩ | ⟨_, h⟩
  · exact mkForall_err h
  · exact .inl (bind_err_class (· = .type) emptyTest_err (fun _ => mkOr_err) h)

@[simp] theorem size_withTy (t : DataType) (e : Expr) : (e.withTy t).size = e.size := by
  cases e <;> rfl

theorem mkNot_size {a e : Expr} (h : mkNot a = .ok e) : e.size = a.size + 1 := by
  obtain ⟨t, ta, rfl⟩ := mkUn_narrow h
  rw [Expr.size, size_withTy, Nat.add_comm]

/-- the error classes of the pre-split transform: never the ValueError class -/
def NotValue (x : Err) : Prop := x ≠ .value

def fuelErr : Err := .internal "fuel"

theorem ctor_err {x : Err} (h : x = .type ∨ x = .sanity) : x ≠ .value ∧ x ≠ fuelErr := by
  rcases h with rfl | rfl <;> exact ⟨Err.noConfusion, Err.noConfusion⟩

/-- every error of the transform: not the ValueError class; and each chain of calls descends into strictly smaller formulas (a
    negated existential is rebuilt once, one extra node, before being split), so the fuel error needs less than `3·|e| + 1` -/
theorem presplit_error : ∀ f,
    (∀ e x, presplit f e = .error x → x ≠ .value ∧ (3 * e.size + 1 ≤ f → x ≠ fuelErr)) ∧
    (∀ neg phi x, splitNot f neg phi = .error x → x ≠ .value ∧ (3 * phi.size + 3 ≤ f → x ≠ fuelErr)) ∧
    (∀ qn q v d phi x, splitQuant f qn q v d phi = .error x → x ≠ .value ∧ (3 * phi.size + 2 ≤ f → x ≠ fuelErr)) := by
  intro f
  induction f with
  | zero =>
    refine ⟨fun e x h => ?_, fun neg phi x h => ?_, fun qn q v d phi x h => ?_⟩ <;> cases h
    · exact ⟨Err.noConfusion, fun hf => by have := e.size_pos; omega⟩
    · exact ⟨Err.noConfusion, fun hf => by omega⟩
    · exact ⟨Err.noConfusion, fun hf => by omega⟩
  | succ f ih =>
    obtain ⟨ihP, ihN, ihQ⟩ := ih
    have ctor {x : Err} {P : Prop} (h : x = .type ∨ x = .sanity) : x ≠ .value ∧ (P → x ≠ fuelErr) :=
      (ctor_err h).imp_right fun k _ => k
    refine ⟨fun e x h => ?_, fun neg phi x h => ?_, fun qn q v d phi x h => ?_⟩
    · cases e with
      | un t op a =>
        rcases ite_eq h with ⟨_, h⟩ | ⟨_, h⟩
        · exact (ihN _ _ _ h).imp_right fun k hf => k (by rw [Expr.size] at hf; omega)
        · cases h
      | quant t q v d b => exact (ihQ _ _ _ _ _ _ h).imp_right fun k hf => k (by rw [Expr.size] at hf; omega)
      | _ => cases h
    · cases phi with
      | un t op p =>
        rcases ite_eq h with ⟨_, h⟩ | ⟨_, h⟩
        · exact (ihP _ _ h).imp_right fun k hf => k (by rw [Expr.size] at hf; omega)
        · cases h
      | bin t op a b =>
        rcases ite_eq h with ⟨_, h⟩ | ⟨_, h⟩
        · exact ctor (.inl (bind_err_class (· = .type) mkNot_err
            (fun _ => bind_err_class (· = .type) mkNot_err fun _ => mkAnd_err) h))
        · rcases ite_eq h with ⟨_, h⟩ | ⟨_, h⟩
          · exact ctor (.inl (bind_err_class (· = .type) mkNot_err (fun _ => mkAnd_err) h))
          · cases h
      | quant t q v d p =>
        cases q with
        | all => cases h
        | some =>
          rcases bind_err h with h | ⟨np, hnp, h⟩
          · exact ctor (.inl (mkNot_err h))
          · rcases ite_eq h with ⟨_, h⟩ | ⟨_, h⟩
            · rcases bind_err h with h | ⟨q, hq, h⟩
              · exact ctor (mkForall_err h)
              · obtain ⟨td, tb, rfl⟩ := mkQuant_narrow hq
                refine (ihQ _ _ _ _ _ _ h).imp_right fun k hf => k ?_
                rw [Expr.size] at hf
                rw [size_withTy, mkNot_size hnp]
                omega
            · cases h
              exact ⟨Err.noConfusion, fun _ hx => absurd (Err.internal.inj hx) (by decide)⟩
      | _ => cases h
    · cases q with
      | some => cases h
      | all =>
        rcases bind_err h with h | ⟨phi', _, h⟩
        · exact (ihP _ _ h).imp_right fun k hf => k (by omega)
        · cases phi' with
          | bin t op a b =>
            rcases ite_eq h with ⟨_, h⟩ | ⟨_, h⟩
            · exact ctor (bind_err_class (fun x => x = .type ∨ x = .sanity) splitHalf_err
                (fun _ => bind_err_class (fun x => x = .type ∨ x = .sanity) splitHalf_err fun _ h => .inl (mkAnd_err h)) h)
            · cases h
          | _ => cases h

theorem presplit_err : ∀ f,
    (∀ e x, presplit f e = .error x → NotValue x) ∧
    (∀ neg phi x, splitNot f neg phi = .error x → NotValue x) ∧
    (∀ qn q v d phi x, splitQuant f qn q v d phi = .error x → NotValue x) :=
  fun f => ⟨fun e x h => ((presplit_error f).1 e x h).1, fun neg phi x h => ((presplit_error f).2.1 neg phi x h).1,
    fun qn q v d phi x h => ((presplit_error f).2.2 qn q v d phi x h).1⟩


/-- conjuncts as the work list of `split_and` sees them -/
inductive Conj (e : Expr) : Expr → Prop
  | root : Conj e e
  | left {y a b : Expr} {t : DataType} : Conj e y → presplit (splitFuel y) y = .ok (.bin t Gen.AND_OPERATOR a b) → Conj e a
  | right {y a b : Expr} {t : DataType} : Conj e y → presplit (splitFuel y) y = .ok (.bin t Gen.AND_OPERATOR a b) → Conj e b

theorem splitLoop_value (e0 : Expr) : ∀ (f : Nat) (stack acc : List Expr), (∀ x ∈ stack, Conj e0 x) →
    splitLoop f stack acc = .error .value → ∃ x, Conj e0 x ∧ isFalseLit x = true := by
  intro f
  induction f with
  | zero => intro stack acc _ h; cases h
  | succ f ih =>
    intro stack acc hs h
    rcases splitLoop_succ h with ⟨_, ⟨⟩⟩ | ⟨e, rest, rfl, ⟨_, h⟩ | ⟨hf, _⟩ | ⟨x, hx, h⟩ | ⟨e', he', ⟨t, a, b, rfl, h⟩ | ⟨_, h⟩⟩⟩
    · exact ih rest acc (fun x hx => hs x (.tail _ hx)) h
    · exact ⟨e, hs e (.head _), hf⟩
    · cases h
      exact absurd rfl ((presplit_err _).1 e _ hx)
    · refine ih (b :: a :: rest) acc (fun x hx => ?_) h
      rcases List.mem_cons.1 hx with rfl | hx
      · exact .right (hs e (.head _)) he'
      · rcases List.mem_cons.1 hx with rfl | hx
        · exact .left (hs e (.head _)) he'
        · exact hs x (.tail _ hx)
    · exact ih rest _ (fun x hx => hs x (.tail _ hx)) h

/-- **C09 (ValueError)**: `split_and` fails with the ValueError class only when one of the conjuncts it reaches is the literal `False` -/
theorem splitAnd_value_only_false (e : Expr) (h : splitAnd e = .error .value) : ∃ x, Conj e x ∧ isFalseLit x = true :=
  splitLoop_value e _ [e] [] (by intro x hx; simp only [List.mem_singleton] at hx; subst hx; exact .root) h

/-- ... and conversely the literal `False` as the whole input is reported that way -/
example : splitAnd falseLit = .error .value := by rfl

end Hpl
