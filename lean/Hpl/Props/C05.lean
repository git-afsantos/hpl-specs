import Hpl.Props.C07
import Hpl.Props.C02
import Hpl.Spec.Clash
/-!
# C05 — definite type errors are always rejected

Model: `build`, `predFromExpr` (`Hpl/Model/Build.lean`). Spec: the *intrinsic* type of a literal or of the result of an
operator / function / set / range / quantifier (references have none), and `HasClash`: somewhere in the term an argument
position demands a type that is disjoint from the intrinsic type found there.
-/
namespace Hpl

theorem castE_ty_of_atomic {e e' : Expr} {t : DataType} (h : castE e t = .ok e') (ha : Atomic e.ty) : e'.ty = e.ty := by
  obtain ⟨hty, hne, _⟩ := castE_ok h
  rcases ha.2 t with h0 | h1
  · rw [hty] at hne; exact absurd h0 hne
  · rw [hty, h1]

/-- what `build` returns carries exactly the intrinsic type -/
theorem build_intrinsic : ∀ (r : Raw) (e : Expr) (τ : DataType), build r = .ok e → intrinsic r = some τ → e.ty = τ :=
  fun r e τ h => (build_induct (P := fun r e => ∀ τ, intrinsic r = some τ → e.ty = τ) (PL := fun _ _ => True)
    (lit := fun _ _ _ hi => Option.some.inj hi) (this := fun _ hi => Option.some.inj hi)
    (var := fun _ _ hi => by cases hi)
    (set := fun _ _ h _ hi => by
      obtain ⟨_, _, rfl⟩ := mkSet_ok h
      exact Option.some.inj hi)
    (range := fun _ _ _ _ h _ hi => by
      obtain ⟨_, _, _, _, rfl⟩ := mkRange_ok h
      exact Option.some.inj hi)
    (quant := fun _ _ _ _ h _ hi => by
      obtain ⟨_, _, _, _, _, _, _, _, rfl⟩ := mkQuant_ok h
      exact Option.some.inj hi)
    (un := fun _ _ h _ hi => by
      obtain ⟨_, _, hd, _, rfl⟩ := mkUn_ok h
      simp only [intrinsic, hd] at hi
      exact Option.some.inj hi)
    (bin := fun _ _ _ _ h _ hi => by
      simp only [intrinsic] at hi
      obtain ⟨_, _, _, hd, _, _, ⟨_, _, _, _, _, rfl⟩ | ⟨_, rfl⟩⟩ := mkBin_ok h <;>
        exact Option.some.inj ((congrArg _ hd).symm.trans hi))
    (call := fun _ _ h _ hi => by
      obtain ⟨_, _, _, hd, _, _, rfl⟩ := mkCall_ok h
      simp only [intrinsic, hd] at hi
      exact Option.some.inj hi)
    (field := fun _ _ _ _ hi => by cases hi) (index := fun _ _ _ _ _ _ hi => by cases hi)
    (nil := trivial) (cons := fun _ _ _ _ => trivial)).1 r e h τ

/-- the type a successful narrowing to `t` starts from meets `t` -/
theorem castE_compat {e e' : Expr} {t : DataType} (h : castE e t = .ok e') : e.ty &&& t ≠ 0 := by
  obtain ⟨hty, hne, _⟩ := castE_ok h
  rw [← hty]; exact hne

/-- what `build` returns for a term whose intrinsic type is disjoint from `t` cannot be narrowed to `t`: every
    argument position of every constructor is rejected through this -/
theorem build_castE_compat {r : Raw} {e e' : Expr} {t : DataType} (hb : build r = .ok e) (hc : castE e t = .ok e') :
    ¬ ∃ τ, intrinsic r = some τ ∧ τ &&& t = 0 :=
  fun ⟨τ, hi, hz⟩ => castE_compat hc (build_intrinsic r e τ hb hi ▸ hz)

/-- some member has an intrinsic type disjoint from `t` -/
def AnyDisjoint : RawList → DataType → Prop
  | .nil, _ => False
  | .cons r rs, t => (∃ τ, intrinsic r = some τ ∧ τ &&& t = 0) ∨ AnyDisjoint rs t

theorem anyDisjoint_rejected : ∀ (rs : RawList) (t : DataType) (es es' : ExprList), AnyDisjoint rs t →
    buildList rs = .ok es → castList t es ≠ .ok es'
  | .nil, _, _, _, hc, _, _ => hc.elim
  | .cons r rs, t, es, es', hc, hb, h => by
      obtain ⟨e1, he1, hb⟩ := bind_ok hb
      obtain ⟨es1, hes1, hb⟩ := bind_ok hb
      cases hb
      obtain ⟨e2, c1, h⟩ := bind_ok h
      obtain ⟨es2, c2, h⟩ := bind_ok h
      exact hc.elim (build_castE_compat he1 c1) (fun hc => anyDisjoint_rejected rs t es1 es2 hc hes1 c2)

/-- a definite clash at the root: the head demands of some argument a type disjoint from that argument's intrinsic type -/
def RootClash : Raw → Prop
  | .un op a => ∃ d τ, findUn op = some d ∧ intrinsic a = some τ ∧ τ &&& d.param = 0
  | .bin op a b => ∃ d, findBin op = some d ∧
      ((∃ τ, intrinsic a = some τ ∧ τ &&& d.p1 = 0) ∨ (∃ τ, intrinsic b = some τ ∧ τ &&& d.p2 = 0) ∨
       (d.p1 &&& d.p2 ≠ 0 ∧ ∃ τa τb, intrinsic a = some τa ∧ intrinsic b = some τb ∧ Atomic τa ∧ τa &&& τb = 0))
  | .range lo hi _ _ => (∃ τ, intrinsic lo = some τ ∧ τ &&& T.NUMBER = 0) ∨ (∃ τ, intrinsic hi = some τ ∧ τ &&& T.NUMBER = 0)
  | .quant _ _ d b => (∃ τ, intrinsic d = some τ ∧ τ &&& T.COMPOUND = 0) ∨ (∃ τ, intrinsic b = some τ ∧ τ &&& T.BOOL = 0)
  | .field m _ => ∃ τ, intrinsic m = some τ ∧ τ &&& T.MESSAGE = 0
  | .index a i => (∃ τ, intrinsic a = some τ ∧ τ &&& T.ARRAY = 0) ∨ (∃ τ, intrinsic i = some τ ∧ τ &&& T.NUMBER = 0)
  | .set vs => AnyDisjoint vs T.PRIMITIVE
  | .call f args => ∃ d, findFun f = some d ∧ ∀ s ∈ d.overloads, s.accepts (uppers args) = false
  | _ => False

/-- pointwise inclusion of two type lists of the same length -/
def subs : List DataType → List DataType → Prop
  | [], [] => True
  | a :: as, b :: bs => sub a b ∧ subs as bs
  | _, _ => False

theorem subs_length : ∀ {as bs : List DataType}, subs as bs → as.length = bs.length
  | [], [], _ => rfl
  | _ :: as, _ :: bs, h => by simp [subs_length h.2]
  | [], _ :: _, h => h.elim
  | _ :: _, [], h => h.elim

theorem and_ne_zero_mono {a b t : DataType} (h : sub a b) (hne : a &&& t ≠ 0) : b &&& t ≠ 0 := by
  intro hz
  apply hne
  unfold sub at h
  rw [← h, Nat.and_assoc, hz]; simp

theorem zip_all_mono : ∀ {as bs : List DataType} (ps : List DataType), subs as bs →
    (List.zip as ps).all (fun p => p.1 &&& p.2 != 0) = true → (List.zip bs ps).all (fun p => p.1 &&& p.2 != 0) = true
  | [], [], _, _, _ => by simp
  | a :: as, b :: bs, [], _, _ => by simp
  | a :: as, b :: bs, p :: ps, h, hall => by
      simp only [List.zip_cons_cons, List.all_cons, Bool.and_eq_true, bne_iff_ne, ne_eq] at hall ⊢
      exact ⟨and_ne_zero_mono h.1 hall.1, zip_all_mono ps h.2 hall.2⟩
  | [], _ :: _, _, h, _ => h.elim
  | _ :: _, [], _, h, _ => h.elim

theorem all_mono (v : DataType) : ∀ {as bs : List DataType}, subs as bs →
    as.all (fun a => a &&& v != 0) = true → bs.all (fun a => a &&& v != 0) = true
  | [], [], _, _ => by simp
  | a :: as, b :: bs, h, hall => by
      simp only [List.all_cons, Bool.and_eq_true, bne_iff_ne, ne_eq] at hall ⊢
      exact ⟨and_ne_zero_mono h.1 hall.1, all_mono v h.2 hall.2⟩
  | [], _ :: _, h, _ => h.elim
  | _ :: _, [], h, _ => h.elim

theorem subs_drop : ∀ (n : Nat) {as bs : List DataType}, subs as bs → subs (as.drop n) (bs.drop n)
  | 0, _, _, h => by simpa using h
  | n + 1, [], [], _ => by simp [subs]
  | n + 1, _ :: as, _ :: bs, h => by simpa using subs_drop n h.2
  | _ + 1, [], _ :: _, h => h.elim
  | _ + 1, _ :: _, [], h => h.elim

/-- overload acceptance is monotone in the argument types -/
theorem accepts_mono (s : Sig) {as bs : List DataType} (h : subs as bs) (ha : s.accepts as = true) : s.accepts bs = true := by
  unfold Sig.accepts at ha ⊢
  rw [← subs_length h]
  simp only at ha ⊢
  split at ha
  · cases ha
  · rename_i h1
    simp only [h1, ↓reduceIte]
    split at ha
    · cases ha
    · rename_i h2
      simp only [h2, Bool.false_eq_true, ↓reduceIte]
      simp only [Bool.and_eq_true] at ha ⊢
      refine ⟨zip_all_mono _ h ha.1, ?_⟩
      have := ha.2
      cases hv : s.variadic with
      | none => rfl
      | some v =>
        rw [hv] at this
        exact all_mono v (subs_drop _ h) this

theorem any_within : sub T.PRIMITIVE T.ANY ∧ sub T.MESSAGE T.ANY ∧ sub T.ITEM T.ANY ∧ sub T.SET T.ANY ∧ sub T.RANGE T.ANY ∧
    sub T.BOOL T.ANY ∧ sub T.ACCESS T.ANY := by decide

theorem build_sub_upper (r : Raw) (e : Expr) (h : build r = .ok e) : sub e.ty (upper r) := by
  unfold upper
  cases hi : intrinsic r with
  | some τ => rw [build_intrinsic r e τ h hi]; exact sub_refl _
  | none =>
    have hk := (WT_within_kind e (build_WT r e h)).2
    refine sub_trans hk ?_
    obtain ⟨h1, h2, h3, h4, h5, h6, h7⟩ := any_within
    cases e <;> simp only [kindDefault, Option.getD] <;> first | assumption | exact sub_refl _

theorem buildList_subs_uppers : ∀ (rs : RawList) (es : ExprList), buildList rs = .ok es → subs es.tys (uppers rs)
  | .nil, es, h => by cases h; simp [ExprList.tys, uppers, subs]
  | .cons r rs, es, h => by
      obtain ⟨e', he, h⟩ := bind_ok h
      obtain ⟨es', hes, h⟩ := bind_ok h
      cases h
      exact ⟨build_sub_upper r e' he, buildList_subs_uppers rs es' hes⟩

mutual
/-- a definite clash somewhere in the term -/
def HasClash : Raw → Prop
  | r@(.set vs) => RootClash r ∨ HasClashL vs
  | r@(.range lo hi _ _) => RootClash r ∨ HasClash lo ∨ HasClash hi
  | r@(.quant _ _ d b) => RootClash r ∨ HasClash d ∨ HasClash b
  | r@(.un _ a) => RootClash r ∨ HasClash a
  | r@(.bin _ a b) => RootClash r ∨ HasClash a ∨ HasClash b
  | r@(.call _ args) => RootClash r ∨ HasClashL args
  | r@(.field m _) => RootClash r ∨ HasClash m
  | r@(.index a i) => RootClash r ∨ HasClash a ∨ HasClash i
  | _ => False
def HasClashL : RawList → Prop
  | .nil => False
  | .cons e es => HasClash e ∨ HasClashL es
end

/-- no term that `build` accepts has a definite clash: at the root every argument position was narrowed successfully
    (`build_castE_compat`), below it by induction -/
theorem buildBoth_noClash : (∀ r e, build r = .ok e → ¬ HasClash r) ∧ (∀ rs es, buildList rs = .ok es → ¬ HasClashL rs) :=
  build_induct (P := fun r _ => ¬ HasClash r) (PL := fun rs _ => ¬ HasClashL rs)
    (lit := fun _ _ => id) (this := id) (var := fun _ => id)
    (set := fun hes ih h hc => by
      obtain ⟨_, c, _⟩ := mkSet_ok h
      exact hc.elim (fun hc => anyDisjoint_rejected _ _ _ _ hc hes c) ih)
    (range := fun hlo hhi ilo ihi h hc => by
      obtain ⟨_, _, c1, c2, _⟩ := mkRange_ok h
      exact hc.elim (Or.rec (build_castE_compat hlo c1) (build_castE_compat hhi c2)) (Or.rec ilo ihi))
    (quant := fun hd hb id ib h hc => by
      obtain ⟨_, _, _, c1, c2, _⟩ := mkQuant_ok h
      exact hc.elim (Or.rec (build_castE_compat hd c1) (build_castE_compat hb c2)) (Or.rec id ib))
    (un := fun ha ia h hc => by
      obtain ⟨d, _, hd, c, _⟩ := mkUn_ok h
      rcases hc with ⟨d', τ, hd', hc⟩ | hc
      · cases hd.symm.trans hd'
        exact build_castE_compat ha c ⟨τ, hc⟩
      · exact ia hc)
    (bin := @fun op a b a' b' e ha hb ia ib h hc => by
      obtain ⟨d, a1, b1, hd, c1, c2, hcase⟩ := mkBin_ok h
      rcases hc with ⟨d', hd', hc⟩ | hc | hc
      · cases hd.symm.trans hd'
        rcases hc with hc | hc | ⟨hov, τa, τb, hia, hib, hat, hz⟩
        · exact build_castE_compat ha c1 hc
        · exact build_castE_compat hb c2 hc
        · obtain ⟨_, a2, _, c3, _⟩ | ⟨hno, _⟩ := hcase
          · -- narrowing an atomic type keeps it; the second operand keeps a subset of its type, so τa ∩ b1.ty ⊆ τa ∩ τb = ∅
            have hta' : a'.ty = τa := build_intrinsic a a' τa ha hia
            have hta1 : a1.ty = τa := by rw [castE_ty_of_atomic c1 (hta' ▸ hat), hta']
            have hb1 : b1.ty &&& τb = b1.ty := build_intrinsic b b' τb hb hib ▸ (castE_sub c2).2
            apply castE_compat c3
            rw [hta1, ← hb1, ← Nat.and_assoc, Nat.and_comm τa b1.ty, Nat.and_assoc, hz]; simp
          · exact hno hov
      · exact ia hc
      · exact ib hc)
    (call := fun has ih h hc => by
      obtain ⟨d, s, _, hd, hs, _⟩ := mkCall_ok h
      rcases hc with ⟨d', hd', hall⟩ | hc
      · cases hd.symm.trans hd'
        obtain ⟨hs1, hs2⟩ := List.mem_filter.1 (hs ▸ List.mem_singleton_self s)
        have := accepts_mono s (buildList_subs_uppers _ _ has) hs2
        rw [hall s hs1] at this; cases this
      · exact ih hc)
    (field := fun hm im h hc => by
      obtain ⟨_, c, _⟩ := mkFieldT_ok h
      exact hc.elim (build_castE_compat hm c) im)
    (index := fun ha hi ia ii h hc => by
      obtain ⟨_, _, c1, c2, _⟩ := mkIndexT_ok h
      exact hc.elim (Or.rec (build_castE_compat ha c1) (build_castE_compat hi c2)) (Or.rec ia ii))
    (nil := id) (cons := fun _ _ ie ies hc => hc.elim ie ies)

/-- **C05**: a term with a definite clash at any position never yields an AST -/
theorem clash_rejected : ∀ (r : Raw), HasClash r → ∀ e, build r ≠ .ok e := fun r hc e h => buildBoth_noClash.1 r e h hc

theorem clashL_rejected : ∀ (rs : RawList), HasClashL rs → ∀ es, buildList rs ≠ .ok es := fun rs hc es h => buildBoth_noClash.2 rs es h hc

theorem disjointFrom_iff {r : Raw} {t : DataType} (h : disjointFrom r t = true) : ∃ τ, intrinsic r = some τ ∧ τ &&& t = 0 := by
  unfold disjointFrom at h
  split at h
  · rename_i τ hτ; exact ⟨τ, hτ, by simpa using h⟩
  · cases h

theorem disjointFromL_sound : ∀ (rs : RawList) (t : DataType), disjointFromL rs t = true → AnyDisjoint rs t
  | .nil, _, h => by cases h
  | .cons r rs, t, h => (Bool.or_eq_true_iff.1 h).imp disjointFrom_iff (disjointFromL_sound rs t)

/-- the executable detector is sound for `RootClash` -/
theorem rootClashB_sound : ∀ (r : Raw), rootClashB r = true → RootClash r
  | .un op a, h => by
      simp only [rootClashB] at h
      split at h
      · rename_i d hd
        obtain ⟨τ, h1, h2⟩ := disjointFrom_iff h
        exact ⟨d, τ, hd, h1, h2⟩
      · cases h
  | .bin op a b, h => by
      simp only [rootClashB] at h
      split at h
      · rename_i d hd
        refine ⟨d, hd, ?_⟩
        simp only [Bool.or_eq_true, Bool.and_eq_true] at h
        rcases h with (h | h) | ⟨hov, h⟩
        · exact Or.inl (disjointFrom_iff h)
        · exact Or.inr (Or.inl (disjointFrom_iff h))
        · right; right
          split at h
          · rename_i τa τb ha hb
            simp only [Bool.and_eq_true, beq_iff_eq] at h
            exact ⟨by simpa using hov, τa, τb, ha, hb, atomic_of_isBase h.1, h.2⟩
          · cases h
      · cases h
  | .range lo hi _ _, h => (Bool.or_eq_true_iff.1 h).imp disjointFrom_iff disjointFrom_iff
  | .quant _ _ d b, h => (Bool.or_eq_true_iff.1 h).imp disjointFrom_iff disjointFrom_iff
  | .field m _, h => disjointFrom_iff h
  | .index a i, h => (Bool.or_eq_true_iff.1 h).imp disjointFrom_iff disjointFrom_iff
  | .set vs, h => disjointFromL_sound vs _ h
  | .lit .., h => by cases h
  | .this, h => by cases h
  | .var _, h => by cases h
  | .call f args, h => by
      simp only [rootClashB] at h
      split at h
      · rename_i d hd
        refine ⟨d, hd, fun s hs => ?_⟩
        rw [List.all_eq_true] at h
        simpa using h s hs
      · cases h

theorem or3_eq_true {a b c : Bool} (h : (a || b || c) = true) : a = true ∨ b = true ∨ c = true :=
  or_assoc.1 ((Bool.or_eq_true_iff.1 h).imp_left Bool.or_eq_true_iff.1)

mutual
theorem hasClashB_sound : ∀ (r : Raw), hasClashB r = true → HasClash r
  | .set vs, h => (Bool.or_eq_true_iff.1 h).imp (rootClashB_sound _) (hasClashLB_sound vs)
  | .range lo hi _ _, h => (or3_eq_true h).imp (rootClashB_sound _) (Or.imp (hasClashB_sound lo) (hasClashB_sound hi))
  | .quant _ _ d b, h => (or3_eq_true h).imp (rootClashB_sound _) (Or.imp (hasClashB_sound d) (hasClashB_sound b))
  | .un _ a, h => (Bool.or_eq_true_iff.1 h).imp (rootClashB_sound _) (hasClashB_sound a)
  | .bin _ a b, h => (or3_eq_true h).imp (rootClashB_sound _) (Or.imp (hasClashB_sound a) (hasClashB_sound b))
  | .call _ args, h => (Bool.or_eq_true_iff.1 h).imp (rootClashB_sound _) (hasClashLB_sound args)
  | .field m _, h => (Bool.or_eq_true_iff.1 h).imp (rootClashB_sound _) (hasClashB_sound m)
  | .index a i, h => (or3_eq_true h).imp (rootClashB_sound _) (Or.imp (hasClashB_sound a) (hasClashB_sound i))
  | .lit .., h => by cases h
  | .this, h => by cases h
  | .var _, h => by cases h
theorem hasClashLB_sound : ∀ (rs : RawList), hasClashLB rs = true → HasClashL rs
  | .nil, h => by cases h
  | .cons r rs, h => (Bool.or_eq_true_iff.1 h).imp (hasClashB_sound r) (hasClashLB_sound rs)
end

/-- **C05** in executable form: whatever the detector flags never yields an AST -/
theorem detected_clash_rejected (r : Raw) (h : hasClashB r = true) : ∀ e, build r ≠ .ok e :=
  clash_rejected r (hasClashB_sound r h)

/-- **C05**, generically: whatever `build` accepts is well typed (C03 `build_WT`); in particular every occurrence of a
    quantified variable is compatible with the element type of its domain, so a variable used at a type disjoint from
    its domain's elements never yields an AST -/
theorem quant_var_clash_rejected (q : Quant) (x : String) (d b : Raw) (e : Expr) (h : build (.quant q x d b) = .ok e) :
    ∃ d' b', e = .quant T.BOOL q x d' b' ∧ ∀ v ∈ b'.preorder, isVarNamed x v = true → v.ty &&& domainElemType d' ≠ 0 := by
  have hwt := build_WT _ e h
  obtain ⟨d1, _, h⟩ := bind_ok h
  obtain ⟨b1, _, h⟩ := bind_ok h
  obtain ⟨d', b', rfl, _⟩ := mkQuant_hygiene h
  exact ⟨d', b', rfl, hwt.2.2.2.2.2⟩

/-- **C05**: a predicate whose top level cannot be boolean is rejected with a type error -/
theorem nonbool_root_rejected (e : Expr) (h : e.ty &&& T.BOOL = 0) : predFromExpr e = .error .type := by
  unfold predFromExpr; simp [h]

/-- **C05**: two occurrences of one reference (same printed form) at disjoint types are rejected with a type error -/
theorem ref_clash_rejected (e : Expr) (he : e.ty &&& T.BOOL ≠ 0) (hl : isBoolLit e = none) (hlit : ∀ t k v, e ≠ .lit t k v)
    (h : refsOk (match castE e T.BOOL with | .ok e' => e' | .error _ => e) = false) :
    ∃ x, predFromExpr e = .error x ∧ x = .type := by
  have hp : predFromExpr e = mkPred e := by
    unfold predFromExpr
    rw [if_neg he]
    cases e <;> first | rfl | exact absurd rfl (hlit _ _ _)
  rw [hp]
  unfold mkPred
  cases hc : castE e T.BOOL with
  | error x => exact ⟨x, rfl, castE_error hc⟩
  | ok e' =>
    rw [hc] at h
    exact ⟨.type, if_neg (by simp [h]), rfl⟩

/-- whatever `build` rejects, with or without a clash, it rejects with a TypeError, a sanity error or a ValueError (C07
    `build_err_documented`) -/
theorem clash_error_class (r : Raw) (x : Err) (h : build r = .error x) : x = .type ∨ x = .sanity ∨ x = .value :=
  build_err_documented r x h

-- non-vacuity: `x + "a"`, `not 1`, `1 = "a"`, `[True to 2]`
example : HasClash (.bin "+" (.field .this "x") (.lit "\"a\"" (.str "\"a\""))) := by
  exact .inl ⟨⟨"+", T.NUMBER, T.NUMBER, T.NUMBER, true, true, true⟩, by decide, Or.inr (Or.inl ⟨T.STRING, rfl, by decide⟩)⟩
example : build (.bin "+" (.field .this "x") (.lit "\"a\"" (.str "\"a\""))) = .error .type := by rfl
example : build (.bin "=" (.lit "1" (.int 1)) (.lit "\"a\"" (.str "\"a\""))) = .error .type := by rfl

end Hpl
