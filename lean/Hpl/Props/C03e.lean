import Hpl.Props.C03c
import Hpl.Model.Parser
import Hpl.Model.Canon
/-!
# C03 at property level: every property and specification the parser returns, and every output of `canonical_form`, is well typed

`Event.WT` / `Property.WT`: every predicate of every simple event is `WTPred` (well-typed tree, boolean root, occurrences of one
reference share a type). The event constructor's alias normalisation (`@A` ↦ the message itself) preserves it (`substE_WT`), the
scope / pattern / property constructors only pass events through, and `canonical_form` only recombines alternatives.
-/
namespace Hpl

def Event.WT : Event → Prop
  | .simple _ _ p => WTPred p
  | .disj a b => a.WT ∧ b.WT

def OptEventWT : Option Event → Prop
  | none => True
  | some e => e.WT

def Property.WT (p : Property) : Prop :=
  OptEventWT p.scope.activator ∧ OptEventWT p.scope.terminator ∧ p.pattern.behaviour.WT ∧ OptEventWT p.pattern.trigger

theorem mkSimpleEvent_WT {n : String} {a : Option String} {p : Pred} {e : Event} (h : mkSimpleEvent n a p = .ok e) (hw : WTPred p) : e.WT := by
  unfold mkSimpleEvent at h
  split at h
  · split at h
    · obtain ⟨p', hp', h⟩ := bind_ok h
      cases h
      exact replaceVarWithThisP_WT _ _ _ hp' hw
    · cases h; exact hw
  · cases h; exact hw

theorem buildSimple_WT {s : RawSimple} {e : Event} (h : buildSimple s = .ok e) : e.WT := by
  unfold buildSimple at h
  obtain ⟨p, hp, h⟩ := bind_ok h
  refine mkSimpleEvent_WT h ?_
  split at hp
  · cases hp; trivial
  · exact parse_predicate_WT _ p hp

theorem mkDisj_WT {a b e : Event} (h : mkDisj a b = .ok e) (ha : a.WT) (hb : b.WT) : e.WT := by
  unfold mkDisj at h
  simp only at h
  split at h
  · cases h; exact ⟨ha, hb⟩
  · cases h

theorem nestDisj_WT : ∀ {evs : List Event} {e : Event}, nestDisj evs = .ok e → (∀ x ∈ evs, x.WT) → e.WT
  | [], e, h, _ => by cases h
  | [a], e, h, hw => by cases h; exact hw a (by simp)
  | [a, b], e, h, hw => by exact mkDisj_WT h (hw a (by simp)) (hw b (by simp))
  | a :: b :: c :: rest, e, h, hw => by
      obtain ⟨r, hr, h⟩ := bind_ok h
      exact mkDisj_WT h (hw a (by simp)) (nestDisj_WT hr (fun x hx => hw x (by simp at hx ⊢; exact Or.inr hx)))

theorem mapM_mem {α β : Type} {f : α → M β} : ∀ {l : List α} {r : List β}, l.mapM f = .ok r → ∀ b ∈ r, ∃ a ∈ l, f a = .ok b
  | [], r, h, b, hb => by cases h; cases hb
  | x :: l, r, h, b, hb => by
      rw [List.mapM_cons] at h
      obtain ⟨y, hy, h⟩ := bind_ok h
      obtain ⟨ys, hys, h⟩ := bind_ok h
      cases h
      simp only [List.mem_cons] at hb
      rcases hb with rfl | hb
      · exact ⟨x, by simp, hy⟩
      · obtain ⟨a, ha, hfa⟩ := mapM_mem hys b hb
        exact ⟨a, by simp [ha], hfa⟩

theorem buildEvent_WT {ev : RawEvent} {e : Event} (h : buildEvent ev = .ok e) : e.WT := by
  cases ev with
  | simple s => exact buildSimple_WT h
  | disj alts =>
    obtain ⟨evs, hevs, h⟩ := bind_ok h
    split at h
    · cases h
    · exact nestDisj_WT h fun x hx => let ⟨_, _, hs⟩ := mapM_mem hevs x hx; buildSimple_WT hs

theorem buildOptEvent_WT {ev : Option RawEvent} {e : Option Event} (h : buildOptEvent ev = .ok e) : OptEventWT e := by
  cases ev with
  | none => cases h; trivial
  | some r =>
    obtain ⟨e', he', h⟩ := bind_ok h
    cases h
    exact buildEvent_WT he'

theorem mkScope_ok {k : ScopeKind} {a t : Option Event} {s : Scope} (h : mkScope k a t = .ok s) : s = ⟨k, a, t⟩ := by
  unfold mkScope at h
  split at h
  · cases h
  · split at h <;> cases h; rfl

theorem mkPattern_ok {k : PatternKind} {b : Event} {t : Option Event} {mn : Rat} {mx : Option Rat} {p : Pattern}
    (h : mkPattern k b t mn mx = .ok p) : p = ⟨k, b, t, mn, mx⟩ ∧ k.hasTrigger = t.isSome := by
  rcases ite_eq h with ⟨-, h⟩ | ⟨hk, h⟩
  · cases h
  · have hk' : k.hasTrigger = t.isSome := by simpa using hk
    rcases ite_eq h with ⟨-, h⟩ | ⟨-, h⟩
    · cases h
    · cases mx with
      | none =>
        cases h
        exact ⟨rfl, hk'⟩
      | some m =>
        rcases ite_eq h with ⟨-, h⟩ | ⟨-, h⟩
        · cases h
        · cases h
          exact ⟨rfl, hk'⟩

theorem writtenOrder {α β : Type} (k : PatternKind) {B : M α} {T : M β} {X : M (α × β)}
    (hX : X = match k with
      | .response | .prevention => do let t ← T; let b ← B; pure (b, t)
      | _ => do let b ← B; let t ← T; pure (b, t)) :
    (∀ x, X = .error x → B = .error x ∨ T = .error x) ∧ (∀ b t, X = .ok (b, t) → B = .ok b ∧ T = .ok t) := by
  subst hX
  constructor
  · intro x h
    cases k
    all_goals
      rcases bind_err h with h1 | ⟨_, -, h⟩
      · first
          | exact .inl h1
          | exact .inr h1
      · rcases bind_err h with h2 | ⟨_, -, h⟩
        · first
            | exact .inl h2
            | exact .inr h2
        · cases h
  · intro b t h
    cases k
    all_goals
      obtain ⟨u, hu, h⟩ := bind_ok h
      obtain ⟨v, hv, h⟩ := bind_ok h
      cases h
      first
        | exact ⟨hu, hv⟩
        | exact ⟨hv, hu⟩

/-- **C03, properties**: every property the constructors build from a parsed property tree is well typed -/
theorem buildProperty_WT (r : RawProperty) (p : Property) (h : buildProperty r = .ok p) : p.WT := by
  unfold buildProperty at h
  obtain ⟨_, _, h⟩ := bind_ok h
  obtain ⟨act, hact, h⟩ := bind_ok h
  obtain ⟨term, hterm, h⟩ := bind_ok h
  obtain ⟨scope, hscope, h⟩ := bind_ok h
  obtain ⟨⟨beh, trig⟩, hbt, h⟩ := bind_ok h
  obtain ⟨pat, hpat, h⟩ := bind_ok h
  unfold mkProperty at h
  obtain ⟨_, _, h⟩ := bind_ok h
  cases h
  obtain ⟨hb, ht⟩ := (writtenOrder r.patternKind rfl).2 beh trig hbt
  cases mkScope_ok hscope
  cases (mkPattern_ok hpat).1
  exact ⟨buildOptEvent_WT hact, buildOptEvent_WT hterm, buildEvent_WT hb, buildOptEvent_WT ht⟩

/-- **C03, entry points**: `parse_property` and `parse_specification` only return well-typed properties, for every text -/
theorem parseProperty_WT (s : String) (p : Property) (h : parseProperty s = .ok p) : p.WT := by
  unfold parseProperty at h
  split at h
  · cases h
  · split at h
    · cases h
    · exact buildProperty_WT _ p h

theorem parseSpecification_WT (s : String) (ps : List Property) (h : parseSpecification s = .ok ps) : ∀ p ∈ ps, p.WT := by
  unfold parseSpecification at h
  split at h
  · cases h
  · split at h
    · cases h
    · unfold buildSpec at h
      split at h
      · cases h
      · exact fun p hp => let ⟨r, _, hr⟩ := mapM_mem h p hp; buildProperty_WT r p hr

/-! ## `canonical_form` -/

theorem simpleEvents_WT : ∀ (e : Event), e.WT → ∀ a ∈ e.simpleEvents, a.WT
  | .simple n al p, hw, a, ha => by simp only [Event.simpleEvents, List.mem_singleton] at ha; subst ha; exact hw
  | .disj x y, hw, a, ha => by
      simp only [Event.simpleEvents, List.mem_append] at ha
      rcases ha with ha | ha
      · exact simpleEvents_WT x hw.1 a ha
      · exact simpleEvents_WT y hw.2 a ha

theorem canonicalScopes_WT (s : Scope) (ha : OptEventWT s.activator) (ht : OptEventWT s.terminator) :
    ∀ s' ∈ canonicalScopes s, OptEventWT s'.activator ∧ OptEventWT s'.terminator := by
  intro s' hs'
  unfold canonicalScopes at hs'
  split at hs'
  iterate 2
    rename_i a hk hact
    simp only [List.mem_map] at hs'
    obtain ⟨e, he, rfl⟩ := hs'
    rw [hact] at ha
    exact ⟨simpleEvents_WT a ha e he, ht⟩
  simp only [List.mem_singleton] at hs'
  subst hs'
  exact ⟨ha, ht⟩

theorem canonicalPatterns_WT (p : Pattern) (hb : p.behaviour.WT) (ht : OptEventWT p.trigger) :
    ∀ p' ∈ canonicalPatterns p, p'.behaviour.WT ∧ OptEventWT p'.trigger := by
  intro p' hp'
  unfold canonicalPatterns at hp'
  split at hp'
  · simp only [List.mem_map] at hp'
    obtain ⟨e, he, rfl⟩ := hp'
    exact ⟨simpleEvents_WT _ hb e he, ht⟩
  · split at hp'
    · rename_i t hk htr
      simp only [List.mem_map] at hp'
      obtain ⟨e, he, rfl⟩ := hp'
      rw [htr] at ht
      exact ⟨hb, simpleEvents_WT t ht e he⟩
    · simp only [List.mem_singleton] at hp'; subst hp'; exact ⟨hb, ht⟩

/-- **C03, `canonical_form`**: every property it returns is well typed when the input is -/
theorem canonical_WT (p : Property) (qs : List Property) (h : canonical p = .ok qs) (hw : p.WT) : ∀ q ∈ qs, q.WT := by
  intro q hq
  unfold canonical at h
  simp only at h
  split at h
  · cases h; simp only [List.mem_singleton] at hq; subst hq; exact hw
  · obtain ⟨sq, hsq, hb⟩ := mapM_mem h q hq
    simp only [List.mem_flatMap, List.mem_map] at hsq
    obtain ⟨s, hs, pt, hpt, rfl⟩ := hsq
    unfold butProp at hb
    obtain ⟨_, _, hb⟩ := bind_ok hb
    cases hb
    obtain ⟨h1, h2⟩ := canonicalScopes_WT p.scope hw.1 hw.2.1 s hs
    obtain ⟨h3, h4⟩ := canonicalPatterns_WT p.pattern hw.2.2.1 hw.2.2.2 pt hpt
    exact ⟨h1, h2, h3, h4⟩

end Hpl
