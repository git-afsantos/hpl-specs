import Hpl.Spec.Grammar
import Hpl.Props.C06b
/-!
# C01 — the parser returns the tree the grammar assigns

`parse_complete`: for every token sequence that the declarative grammar (`Renders`, `Spec/Grammar.lean`: left-recursive
rules, optional and redundant parentheses) reads as a `condition` with tree `e`, the recursive-descent parser model returns
exactly `e` and consumes all tokens.  By induction on the derivation, with a continuation invariant for the loops that
implement left recursion.
-/
namespace Hpl

theorem opTest_text {k : Nat} {t : Tok} (hk : isLoopLevel k = true) (h : opTest k t = true) :
    (k = 1 → t.text = "or") ∧ (k = 2 → t.text = "and") ∧ (k = 7 → t.text = "**") := by
  refine ⟨?_, ?_, ?_⟩ <;> intro hk' <;> subst hk'
  · exact isKw_text h
  · exact isKw_text h
  · exact isSym_text h

/-! ## what may follow a phrase -/

/-- after a phrase of a left-recursive level the next token may be an operator of that very level -/
def bound (k : Nat) : Nat := if isLoopLevel k then k + 1 else k

theorem bound_le (k : Nat) : bound k ≤ k + 1 := by unfold bound; split <;> omega
theorem le_bound (k : Nat) : k ≤ bound k := by unfold bound; split <;> omega

/-- what the parser does after having read a level-`k` phrase with tree `e` -/
def cont (G k : Nat) (e : Raw) (rest : List Tok) : PR (Raw × List Tok) :=
  if isLoopLevel k then loopL k G e rest else .ok (e, rest)

theorem cont_stop (G k : Nat) (e : Raw) (rest : List Tok) (hs : stops k rest = true) : cont (G + 1) k e rest = .ok (e, rest) := by
  unfold cont
  split
  · rename_i hk
    rw [loopL_eq hk]
    cases rest with
    | nil => rfl
    | cons t ts => simp only [(stopsB_iff.1 hs).1 k (Nat.le_refl _), Bool.false_eq_true, ↓reduceIte]
  · rfl

/-! ## how a phrase starts -/

theorem notLogic_of_kind {t : Tok} (h : t.kind ≠ .word) : isLogicKw t = false := by
  simp [isLogicKw, isKw, h]

theorem notSym_of_kind {t : Tok} (h : t.kind ≠ .sym) (s : String) : isSym t s = false := by
  simp [isSym, h]

theorem notLogic_of_sym {t : Tok} {s : String} (h : isSym t s = true) : isLogicKw t = false := by
  simp only [isSym, Bool.and_eq_true, beq_iff_eq] at h
  exact notLogic_of_kind (by rw [h.1]; decide)

theorem notLogic_of_name {t : Tok} (h : isName t.text = true) : isLogicKw t = false := by
  obtain ⟨_, _, _, _, h1, h2, h3⟩ := isName_spec h
  simp [isLogicKw, isKw, h1, h2, h3]

/-- atomic values and references do not start with `-` or `(` -/
theorem renders_head {k : Nat} {e : Raw} {ts : List Tok} (h : Renders k e ts) : 9 ≤ k → k ≤ 10 →
    ∃ t ts', ts = t :: ts' ∧ isSym t "-" = false ∧ isSym t "(" = false := by
  have word : ∀ {t : Tok} {kd : TokKind} (rest : List Tok), t.kind = kd → kd ≠ .sym →
      ∃ t' ts', t :: rest = t' :: ts' ∧ isSym t' "-" = false ∧ isSym t' "(" = false :=
    fun rest hk hne => ⟨_, rest, rfl, notSym_of_kind (hk ▸ hne) _, notSym_of_kind (hk ▸ hne) _⟩
  have open_ : ∀ {o : Tok} {s : String} (rest : List Tok), isSym o s = true → s ≠ "-" → s ≠ "(" →
      ∃ t' ts', o :: rest = t' :: ts' ∧ isSym t' "-" = false ∧ isSym t' "(" = false :=
    fun rest ho h1 h2 => ⟨_, rest, rfl, isSym_other ho h1, isSym_other ho h2⟩
  induction h with
  | up | rel | not | quant | neg | paren => intro h9; omega
  | binL t hl _ _ _ _ _ => intro h9; simp [isLoopLevel] at hl; omega
  | str t hk | var t hk => exact fun _ _ => word _ hk (by decide)
  | true_ t hk _ | false_ t hk _ | own t hk _ => exact fun _ _ => word _ hk (by decide)
  | num t v hk _ => exact fun _ _ => word _ hk (by decide)
  | const t v hk _ hc => exact fun _ _ => word _ hk (by decide)
  | call f o c hk hn _ _ _ _ => exact fun _ _ => word _ hk (by decide)
  | range o kto c ho _ _ _ _ _ _ =>
    intro _ _
    rcases Bool.or_eq_true_iff.1 ho with h | h
    · exact open_ _ h (by decide) (by decide)
    · exact open_ _ h (by decide) (by decide)
  | setOne | setMore => intro _ h10; omega
  | set o c ho _ _ _ => exact fun _ _ => open_ _ ho (by decide) (by decide)
  | field d n _ _ _ _ ih =>
    intro _ _
    obtain ⟨t, ts', rfl, h2⟩ := ih (by omega) (by omega)
    exact ⟨t, _, rfl, h2⟩
  | index o c _ _ _ _ iha _ =>
    intro _ _
    obtain ⟨t, ts', rfl, h2⟩ := iha (by omega) (by omega)
    exact ⟨t, _, rfl, h2⟩
  | ref _ ih =>
    intro _ _
    obtain ⟨t, ts', rfl, h2⟩ := ih (by omega) (by omega)
    exact ⟨t, _, rfl, h2⟩

/-! ## the invariants (with explicit fuel: 12 units per token, plus one per grammar level still to descend) -/

/-- level `k ≤ 9`: whatever the parser does after a level-`k` phrase denoting `e` (`cont`), reading `ts` first leads there -/
def CPS (k : Nat) (e : Raw) (ts : List Tok) : Prop :=
  ∀ rest r g0, 1 ≤ g0 → stops (bound k) rest = true → (∀ G, g0 ≤ G → cont G k e rest = .ok r) →
    ∀ F, g0 + 12 * ts.length + (10 - k) ≤ F → pL k F (ts ++ rest) = .ok r

/-- a reference read so far: the accessor loop continues from it -/
def RefGoal (x : Raw) (ts : List Tok) : Prop :=
  ∀ rest r g0, 1 ≤ g0 → headIs rest (fun t => isSym t "(") = false → (∀ G, g0 ≤ G → pRefTail G x rest = .ok r) →
    ∀ F, g0 + 12 * ts.length + 1 ≤ F → pAtomicValue F (ts ++ rest) = .ok r

def setStart (F : Nat) (toks : List Tok) : PR (Raw × List Tok) := do let (a, ts') ← pExpr F toks; pSetTail F [a] ts'

/-- the members of a set literal read so far: the member loop continues with them (in reverse, as the parser keeps them) -/
def SetGoal (e : Raw) (ts : List Tok) : Prop :=
  ∀ es, e = .set es → ∀ rest r g0, 1 ≤ g0 → (∀ G, g0 ≤ G → pSetTail G es.toList.reverse rest = .ok r) →
    ∀ F, g0 + 12 * ts.length + 6 ≤ F → setStart F (ts ++ rest) = .ok r

/-- levels 10 and 11 are those of `Renders`, not of the parser: a reference read so far, and the members of a set literal read so far -/
def Goal : Nat → Raw → List Tok → Prop
  | 10 => RefGoal
  | 11 => SetGoal
  | k => CPS k

theorem goal_low {k : Nat} (hk : k ≤ 9) (e : Raw) (ts : List Tok) : Goal k e ts = CPS k e ts := by
  unfold Goal
  split
  · omega
  · omega
  · rfl

theorem bound_loop {k : Nat} (h : isLoopLevel k = true) : bound k = k + 1 := by simp [bound, h]

/-- reading a phrase with nothing to continue -/
theorem cps_plain {k : Nat} {e : Raw} {ts : List Tok} (h : CPS k e ts) (rest : List Tok) (hs : stops k rest = true) :
    ∀ F, 1 + 12 * ts.length + (10 - k) ≤ F → pL k F (ts ++ rest) = .ok (e, rest) :=
  h rest (e, rest) 1 (Nat.le_refl _) (stops_mono hs (le_bound k)) (fun G hG => by
    obtain ⟨g, rfl⟩ : ∃ g, G = g + 1 := ⟨G - 1, by omega⟩
    exact cont_stop g k e rest hs)

theorem cps_rule {k : Nat} {e : Raw} {ts : List Tok} (hk : isLoopLevel k = false)
    (h : ∀ rest f, stops k rest = true → 12 * ts.length + (10 - k) ≤ f → pL k (f + 1) (ts ++ rest) = .ok (e, rest)) : CPS k e ts := by
  intro rest r g0 hg hs hc F hF
  have hr := hc g0 (Nat.le_refl _)
  simp only [cont, bound, hk, Bool.false_eq_true, if_false] at hs hr
  cases hr
  obtain ⟨f, rfl, hf⟩ := exists_succ (n := 12 * ts.length + (10 - k)) (show 12 * ts.length + (10 - k) + 1 ≤ F by omega)
  exact h rest f hs hf

theorem loop_turn {α : Type} {L K : Nat → PR α} {r : α} {n g0 : Nat} (hstep : ∀ g, n ≤ g → L (g + 1) = K g)
    (hc : ∀ G, g0 ≤ G → K G = .ok r) : ∀ G, max n g0 + 1 ≤ G → L G = .ok r := by
  intro G hG
  obtain ⟨g, rfl, hg⟩ := exists_succ hG
  rw [hstep g (by omega)]
  exact hc g (by omega)

/-! ## from a level to the next looser one -/

theorem up_cps {k : Nat} {e : Raw} {ts : List Tok} (hk : k < 9) (hh : k = 3 → ∀ t ts', ts = t :: ts' → isLogicKw t = false)
    (hne : ts ≠ []) (hr : Renders (k + 1) e ts) (ih : CPS (k + 1) e ts) : CPS k e ts := by
  by_cases hl : isLoopLevel k = true
  · intro rest r g0 hg hs hc F hF
    obtain ⟨f, rfl, hf⟩ := exists_succ (n := g0 + 12 * ts.length + (10 - k) - 1) (show g0 + 12 * ts.length + (10 - k) - 1 + 1 ≤ F by omega)
    rw [bound_loop hl] at hs
    have h1 := cps_plain ih rest hs f (by omega)
    rw [pL_loop_eq hl, h1]
    have := hc f (by omega)
    simp only [cont, hl, ↓reduceIte] at this
    simpa [bind, Except.bind] using this
  · have hl' : isLoopLevel k = false := by simpa using hl
    refine cps_rule hl' fun rest f hs hf => ?_
    have P : ParsesTo (pL (k + 1)) (12 * ts.length + (10 - k)) (ts ++ rest) e rest :=
      fun F hF => cps_plain ih rest (stops_mono hs (Nat.le_succ k)) F (by omega)
    obtain ⟨t, ts', rfl⟩ : ∃ t ts', ts = t :: ts' := by
      cases ts with
      | nil => exact absurd rfl hne
      | cons t ts' => exact ⟨t, ts', rfl⟩
    have hk3 : k = 3 ∨ k = 4 ∨ k = 8 := by
      simp only [isLoopLevel, Bool.or_eq_false_iff, beq_eq_false_iff_ne, ne_eq] at hl'
      omega
    rcases hk3 with rfl | rfl | rfl
    · exact lift_logic P (hh rfl t ts' rfl) (List.cons_ne_nil _ _) (f + 1) (by omega)
    · exact lift_atomicCondition P (stops_rel hs (Nat.le_refl _)) (f + 1) (by omega)
    · obtain ⟨t0, ts0, he, h1, h2⟩ := renders_head hr (by omega) (by omega)
      cases he
      exact lift_exponent P h1 h2 (f + 1) (by omega)

/-! ## what the member loop of a set literal accepts next -/

theorem rawSnoc_toList : ∀ (es : RawList) (e : Raw), (rawSnoc es e).toList = es.toList ++ [e]
  | .nil, e => rfl
  | .cons x xs, e => by simp [rawSnoc, RawList.toList, rawSnoc_toList xs e]

theorem pSetTail_head {G : Nat} {acc : List Raw} {rest : List Tok} {r : Raw × List Tok} (h : pSetTail (G + 1) acc rest = .ok r) :
    ∃ t ts, rest = t :: ts ∧ (isSym t "}" = true ∨ isSym t "," = true) := by
  cases rest with
  | nil => cases h
  | cons t ts =>
    refine ⟨t, ts, rfl, ?_⟩
    rcases ite_eq h with ⟨ht, _⟩ | ⟨_, h⟩
    · exact .inl ht
    · exact .inr (ite_perr h).1

theorem setTail_stops {acc : List Raw} {rest : List Tok} {r : Raw × List Tok} {g0 : Nat}
    (h : ∀ G, g0 ≤ G → pSetTail G acc rest = .ok r) (k : Nat) : stops k rest = true := by
  obtain ⟨t, ts, rfl, ht⟩ := pSetTail_head (h (g0 + 1) (by omega))
  rcases ht with ht | ht
  · exact (stopsB_sym ht (.inr (.inr (.inr (.inl rfl)))) k)
  · exact (stopsB_sym ht (.inr (.inr (.inr (.inr (.inl rfl))))) k)

/-! ## the induction over derivations: the rules of the grammar, one by one -/

theorem renders_ne {k : Nat} {e : Raw} {ts : List Tok} (h : Renders k e ts) : ts ≠ [] := by
  induction h with
  | up _ _ _ ih => exact ih
  | setOne _ ih => exact ih
  | ref _ ih => exact ih
  | _ => simp

/-- an atomic value read in one step by `_atomic_value` -/
theorem atom_cps {e : Raw} {t : Tok} (h : ∀ F rest, pAtomicValue (F + 1) (t :: rest) = .ok (e, rest)) : CPS 9 e [t] :=
  cps_rule (by decide) fun rest f _ _ => h f rest

theorem renders_goal {k : Nat} {e : Raw} {ts : List Tok} (h : Renders k e ts) : Goal k e ts := by
  induction h with
  | @up k e ts hk hh hr ih =>
    rw [goal_low (by omega)] at ih ⊢
    exact up_cps hk hh (renders_ne hr) hr ih
  | @binL k a b ta tb t hl ht _ _ iha ihb =>
    have hk7 : k ≤ 7 := by simp only [isLoopLevel, Bool.or_eq_true, beq_iff_eq] at hl; omega
    rw [goal_low (by omega)] at iha ihb ⊢
    intro rest r g0 hg hs hc F hF
    rw [bound_loop hl] at hs
    have hnb := cps_plain ihb rest hs
    have hca := loop_turn (L := fun G => cont G k a (t :: (tb ++ rest))) (n := 1 + 12 * tb.length + (10 - (k + 1))) (fun g hg => by
      simp only [cont, hl, ↓reduceIte]
      rw [loopL_eq hl]
      simp only [ht, ↓reduceIte, hnb g hg, bind, Except.bind]) hc
    have hst : stops (bound k) (t :: (tb ++ rest)) = true := by
      rw [bound_loop hl]; exact (opTest_stop hl ht)
    have := iha (t :: (tb ++ rest)) r _ (by omega) hst hca F (by
      simp only [List.length_append, List.length_cons] at hF; omega)
    simpa only [List.append_assoc, List.cons_append, List.nil_append] using this
  | @rel a b ta tb t ht _ _ iha ihb =>
    refine cps_rule (by decide) fun rest f hs hf => ?_
    simp only [List.length_append, List.length_cons] at hf
    have := rel_rule ht (fun F hF => cps_plain iha (t :: (tb ++ rest)) (relTest_stop ht) F hF)
      (fun F hF => cps_plain ihb rest (stops_mono hs (by omega)) F hF) (f + 1) (by omega)
    simpa only [pL, List.append_assoc, List.cons_append] using this
  | @not a ta t ht _ iha =>
    refine cps_rule (by decide) fun rest f hs hf => ?_
    simp only [List.length_cons] at hf
    exact not_rule ht (fun F hF => cps_plain iha rest hs F hF) (f + 1) (by omega)
  | @quant d b td tb t v kin c ht hvk hvn hkin hc' _ _ ihd ihb =>
    refine cps_rule (by decide) fun rest f hs hf => ?_
    simp only [List.length_append, List.length_cons] at hf
    have := quant_rule (n := 12 * td.length + 12 * tb.length + 8) ht hvk hvn hkin hc'
      (fun F hF => cps_plain ihd (c :: (tb ++ rest)) (stopsB_sym hc' (.inr (.inr (.inr (.inr (.inr rfl))))) 9) F (by omega))
      (fun F hF => cps_plain ihb rest hs F (by omega)) (f + 1) (by omega)
    simpa only [pL, List.append_assoc, List.cons_append] using this
  | @neg a ta t ht _ iha =>
    refine cps_rule (by decide) fun rest f hs hf => ?_
    simp only [List.length_cons] at hf
    exact neg_rule ht (fun F hF => cps_plain iha rest hs F hF) (f + 1) (by omega)
  | @paren e ts o c ho hc' _ ih =>
    refine cps_rule (by decide) fun rest f hs hf => ?_
    simp only [List.length_append, List.length_cons, List.length_nil] at hf
    have := paren_rule ho hc' (fun F hF => cps_plain ih (c :: rest) (stopsB_sym hc' (.inl rfl) 0) F hF) (f + 1) (by omega)
    simpa only [pL, List.append_assoc, List.cons_append, List.nil_append] using this
  | str t hk => exact atom_cps fun F rest => by simp [pAtomicValue, hk]
  | num t v hk hv => exact atom_cps fun F rest => by simp [pAtomicValue, hk, hv]
  | true_ t hk ht =>
    have c1 : isCName "True" = true := by decide
    exact atom_cps fun F rest => by simp [pAtomicValue, hk, ht, c1]
  | false_ t hk ht =>
    have c1 : isCName "False" = true := by decide
    exact atom_cps fun F rest => by simp [pAtomicValue, hk, ht, c1]
  | const t v hk ha hv =>
    have hc : isCName t.text = true ∧ t.text ≠ "True" ∧ t.text ≠ "False" := by
      rcases numberConstant_some (by rw [hv]; rfl) with h | h | h | h <;> (rw [h]; decide)
    exact atom_cps fun F rest => by simp [pAtomicValue, hk, ha, hv, hc.1, hc.2.1, hc.2.2]
  | @call a ta f o c hk hn ho hc' _ iha =>
    refine cps_rule (by decide) fun rest g hs hg' => ?_
    simp only [List.length_append, List.length_cons, List.length_nil] at hg'
    have := call_rule hk hn ho hc' (fun F hF => cps_plain iha (c :: rest) (stopsB_sym hc' (.inl rfl) 5) F hF) (g + 1) (by omega)
    simpa only [pL, List.append_assoc, List.cons_append, List.nil_append] using this
  | @range lo hi tl th o kto c ho hto hc' _ _ ihl ihh =>
    refine cps_rule (by decide) fun rest f hs hf => ?_
    have hcstop : stopsB 5 c = true := by
      rcases Bool.or_eq_true_iff.1 hc' with h | h
      · exact stopsB_sym h (.inr (.inl rfl)) 5
      · exact stopsB_sym h (.inr (.inr (.inl rfl))) 5
    simp only [List.length_append, List.length_cons, List.length_nil] at hf
    have := range_rule (n := 12 * tl.length + 12 * th.length + 6) ho hto hc'
      (fun F hF => cps_plain ihl (kto :: (th ++ c :: rest)) (stopsB_to hto 5) F (by omega))
      (fun F hF => cps_plain ihh (c :: rest) hcstop F (by omega)) (f + 1) (by omega)
    simpa only [pL, List.append_assoc, List.cons_append, List.nil_append] using this
  | @setOne e te _ ihe =>
    intro es hes rest r g0 hg hc F hF
    cases hes
    simp only [RawList.toList, List.reverse_cons, List.reverse_nil, List.nil_append] at hc
    have h1 := cps_plain ihe rest (setTail_stops hc 5) F (by omega)
    simp only [pL] at h1
    simp only [setStart, h1, bind, Except.bind]
    exact hc F (by omega)
  | @setMore es ts e te c hc' _ _ ihs ihe =>
    intro es' hes rest r g0 hg hc F hF
    cases hes
    rw [rawSnoc_toList, List.reverse_append] at hc
    simp only [List.reverse_cons, List.reverse_nil, List.nil_append, List.cons_append] at hc
    have hn := cps_plain ihe rest (setTail_stops hc 5)
    have hloop := loop_turn (L := fun G => pSetTail G es.toList.reverse (c :: (te ++ rest))) (n := 1 + 12 * te.length + 5) (fun g hg => by
      have h1 := hn g hg
      simp only [pL] at h1
      show (if isSym c "}" then _ else _) = _
      simp only [isSym_other hc' (show "," ≠ "}" by decide), hc', Bool.false_eq_true, ↓reduceIte, h1, bind, Except.bind]) hc
    have := ihs es rfl (c :: (te ++ rest)) r _ (by omega) hloop F (by
      simp only [List.length_append, List.length_cons] at hF; omega)
    simpa only [List.append_assoc, List.cons_append, List.nil_append] using this
  | @set es ts o c ho hc' _ ihs =>
    refine cps_rule (by decide) fun rest f hs hf => ?_
    have hclose : ∀ G, 1 ≤ G → pSetTail G es.toList.reverse (c :: rest) = .ok (.set es, rest) := by
      intro G hG
      obtain ⟨g, rfl, _⟩ := exists_succ (n := 0) hG
      have := rawListOf_toList es
      show (if isSym c "}" then _ else _) = _
      simp only [hc', ↓reduceIte, List.reverse_reverse]
      unfold rawListOf at this
      rw [this]
    simp only [List.length_append, List.length_cons, List.length_nil] at hf
    have h1 := ihs es rfl (c :: rest) (.set es, rest) 1 (Nat.le_refl _) hclose f (by omega)
    obtain ⟨hk, ht⟩ := isSym_spec.1 ho
    simp only [setStart, List.append_assoc, List.cons_append, List.nil_append] at h1 ⊢
    simp [pL, pAtomicValue, hk, ht]
    exact h1
  | var t hk =>
    intro rest r g0 hg _ hc F hF
    simp only [List.length_cons, List.length_nil] at hF
    obtain ⟨f, rfl, hf⟩ := exists_succ (n := g0) (show g0 + 1 ≤ F by omega)
    rw [show [t] ++ rest = t :: rest from rfl, pAtomicValue_var hk]
    exact hc f hf
  | own t hk hn =>
    intro rest r g0 hg hpar hc F hF
    simp only [List.length_cons, List.length_nil] at hF
    obtain ⟨f, rfl, hf⟩ := exists_succ (n := g0 + 1) (show g0 + 1 + 1 ≤ F by omega)
    obtain ⟨g, rfl, hg'⟩ := exists_succ (n := g0) hf
    rw [show [t] ++ rest = t :: rest from rfl, pAtomicValue_own hk hn hpar]
    exact hc (g + 1) (by omega)
  | @field m tm d n hd hk hn _ ih =>
    intro rest r g0 hg _ hc F hF
    have hloop : ∀ G, g0 + 1 ≤ G → pRefTail G m (d :: n :: rest) = .ok r := by
      intro G hG
      obtain ⟨g, rfl, hg'⟩ := exists_succ hG
      rw [pRefTail_field hd hk hn]
      exact hc g hg'
    have := ih (d :: n :: rest) r _ (by omega) (by simp only [headIs]; exact isSym_other hd (by decide)) hloop F (by
      simp only [List.length_append, List.length_cons, List.length_nil] at hF; omega)
    simpa only [List.append_assoc, List.cons_append, List.nil_append] using this
  | @index a ta i ti o c ho hc' _ _ iha ihi =>
    intro rest r g0 hg _ hc F hF
    have hn := cps_plain ihi (c :: rest) ((stopsB_sym hc' (.inr (.inl rfl)) 5))
    have hloop := loop_turn (L := fun G => pRefTail G a (o :: (ti ++ c :: rest))) (n := 1 + 12 * ti.length + 5) (fun g hg => by
      exact pRefTail_index ho hc' (hn g hg)) hc
    have := iha (o :: (ti ++ c :: rest)) r _ (by omega) (by simp only [headIs]; exact isSym_other ho (by decide)) hloop F (by
      simp only [List.length_append, List.length_cons, List.length_nil] at hF; omega)
    simpa only [List.append_assoc, List.cons_append, List.nil_append] using this
  | @ref x ts _ ih =>
    refine cps_rule (by decide) fun rest f hs hf => ?_
    have hpar : headIs rest (fun t => isSym t "(") = false := by
      cases rest with
      | nil => rfl
      | cons t ts' => exact (stopsB_iff.1 hs).2.2.2.2
    have hstop : ∀ G, 1 ≤ G → pRefTail G x rest = .ok (x, rest) := by
      intro G hG
      obtain ⟨g, rfl, _⟩ := exists_succ (n := 0) hG
      exact refTail_stop hs
    exact ih rest (x, rest) 1 (Nat.le_refl _) hpar hstop (f + 1) (by omega)

/-- **C01**: every token sequence the grammar reads as a `condition` with tree `e` is parsed to exactly `e`, all tokens consumed,
    with the fuel the parser model gives itself -/
theorem parse_complete {e : Raw} {ts : List Tok} (h : Renders 0 e ts) : parseExpressionToks ts = .ok e := by
  have hg := renders_goal h
  rw [goal_low (by omega)] at hg
  have := cps_plain hg [] (rfl) (parseFuel ts) (by simp only [parseFuel]; omega)
  simp only [pL, List.append_nil] at this
  simp only [parseExpressionToks, this, bind, Except.bind, List.isEmpty_nil, ↓reduceIte, pure, Except.pure]

/-- the same inside braces (`hpl_predicate`) -/
theorem parse_predicate_complete {e : Raw} {ts : List Tok} (h : Renders 0 e ts) (o c : Tok) (ho : isSym o "{" = true) (hc : isSym c "}" = true) :
    parsePredicateToks (o :: (ts ++ [c])) = .ok e := by
  have hg := renders_goal h
  rw [goal_low (by omega)] at hg
  have := cps_plain hg [c] ((stopsB_sym hc (.inr (.inr (.inr (.inl rfl)))) 0)) (parseFuel (o :: (ts ++ [c]))) (by
    simp only [parseFuel, List.length_cons, List.length_append, List.length_nil]; omega)
  simp only [pL] at this
  simp only [parsePredicateToks, pPredicate, ho, ↓reduceIte, this, bind, Except.bind, hc, pure, Except.pure, List.isEmpty_nil]

/-! ## non-vacuity: renderings with minimal and with redundant parentheses -/

/-- the first token is not one of the keywords that open a logic operand -/
def HeadOk (ts : List Tok) : Prop := ∀ t ts', ts = t :: ts' → isLogicKw t = false

theorem headOk_cons {t0 : Tok} (h : isLogicKw t0 = false) (rest : List Tok) : HeadOk (t0 :: rest) := by
  intro t ts' he
  cases he
  exact h

theorem HeadOk.append {ts : List Tok} (h : HeadOk ts) (hne : ts ≠ []) (more : List Tok) : HeadOk (ts ++ more) := by
  cases ts with
  | nil => exact absurd rfl hne
  | cons t0 r => exact headOk_cons (h t0 r rfl) _

macro "upside" : tactic =>
  `(tactic| first | (intro h1 h2; exfalso; omega) | (intro _ _; assumption) | (intro _ _; apply headOk_cons; decide))

/-- from a tighter level to a looser one; where the step into `_logic_expr` (level 3) is taken the phrase must not start with a logic keyword -/
theorem upTo {e : Raw} {ts : List Tok} : ∀ (d k : Nat), k + d ≤ 9 → Renders (k + d) e ts →
    (hh : k ≤ 3 → 3 < k + d → HeadOk ts := by upside) → Renders k e ts
  | 0, _, _, h, _ => h
  | d + 1, k, hk, h, hh => .up (by omega) (fun h3 => hh (by omega) (by omega))
      (upTo d (k + 1) (by omega) (by rw [Nat.add_assoc, Nat.add_comm 1 d]; exact h) (fun h1 h2 => hh (by omega) (by omega)))

theorem up8 {e : Raw} {ts : List Tok} (h : Renders 9 e ts) : Renders 8 e ts := .up (by omega) (fun h => by omega) h

theorem ownR (n : String) (hn : isName n = true) : Renders 9 (.field .this n) [wordT n] := .ref (.own (wordT n) rfl (isNameTok_of_isName hn))

/-- `a - b - c` is `(a - b) - c` -/
example : parseExpressionToks [wordT "a", symT "-", wordT "b", symT "-", wordT "c"] =
    .ok (.bin "-" (.bin "-" (.field .this "a") (.field .this "b")) (.field .this "c")) := by
  apply parse_complete
  apply upTo 5 0 (by omega)
  have hab : Renders 5 (.bin "-" (.field .this "a") (.field .this "b")) ([wordT "a"] ++ symT "-" :: [wordT "b"]) :=
    .binL (symT "-") (by decide) (by decide) (upTo 4 5 (by omega) (ownR "a" (by decide))) (upTo 3 6 (by omega) (ownR "b" (by decide)))
  exact .binL (symT "-") (by decide) (by decide) hab (upTo 3 6 (by omega) (ownR "c" (by decide)))

/-- `x = y and z or not w` with minimal parentheses, and `((x))` with redundant ones -/
example : parseExpressionToks [wordT "x", symT "=", wordT "y", wordT "and", wordT "z", wordT "or", wordT "not", wordT "w"] =
    .ok (.bin "or" (.bin "and" (.bin "=" (.field .this "x") (.field .this "y")) (.field .this "z")) (.un "not" (.field .this "w"))) := by
  apply parse_complete
  apply upTo 1 0 (by omega)
  have hxy : Renders 4 (.bin "=" (.field .this "x") (.field .this "y")) ([wordT "x"] ++ symT "=" :: [wordT "y"]) :=
    .rel (symT "=") (by decide) (upTo 4 5 (by omega) (ownR "x" (by decide))) (upTo 4 5 (by omega) (ownR "y" (by decide)))
  have hand : Renders 2 (.bin "and" (.bin "=" (.field .this "x") (.field .this "y")) (.field .this "z"))
      (([wordT "x"] ++ symT "=" :: [wordT "y"]) ++ wordT "and" :: [wordT "z"]) :=
    .binL (wordT "and") (by decide) (by decide) (upTo 2 2 (by omega) hxy) (upTo 6 3 (by omega) (ownR "z" (by decide)))
  have hnot : Renders 2 (.un "not" (.field .this "w")) [wordT "not", wordT "w"] :=
    upTo 1 2 (by omega) (.not (wordT "not") (by decide) (upTo 6 3 (by omega) (ownR "w" (by decide))))
  exact .binL (wordT "or") (by decide) (by decide) (upTo 1 1 (by omega) hand) hnot

example : parseExpressionToks [symT "(", symT "(", wordT "x", symT ")", symT ")"] = .ok (.field .this "x") := by
  apply parse_complete
  apply upTo 8 0 (by omega)
  have h1 : Renders 8 (.field .this "x") (symT "(" :: ([wordT "x"] ++ [symT ")"])) :=
    .paren (symT "(") (symT ")") (by decide) (by decide) (upTo 9 0 (by omega) (ownR "x" (by decide)))
  exact .paren (symT "(") (symT ")") (by decide) (by decide) (upTo 8 0 (by omega) h1)

/-! ## the printed form is one of the renderings (so the round trip of C06 is an instance of completeness) -/

theorem litTok_renders {tok : String} {v : LitVal} (h : litOk tok v = true) : Renders 9 (.lit tok v) [litTok tok v] := by
  rcases lit_cases h with ⟨rfl, e⟩ | ⟨rfl, rfl, e⟩ | ⟨rfl, rfl, e⟩ | ⟨hv, _, e⟩ | ⟨hv, e⟩ <;> rw [e]
  · exact .str (mkTok .str tok) rfl
  · exact .true_ (wordT "True") rfl rfl
  · exact .false_ (wordT "False") rfl rfl
  · exact .const (wordT tok) v rfl rfl hv
  · exact .num (mkTok .num tok) v rfl hv

def rawAppend : RawList → RawList → RawList
  | .nil, ys => ys
  | .cons x xs, ys => .cons x (rawAppend xs ys)

theorem rawAppend_snoc : ∀ (pre : RawList) (x : Raw) (xs : RawList), rawAppend (rawSnoc pre x) xs = rawAppend pre (.cons x xs)
  | .nil, x, xs => rfl
  | .cons p ps, x, xs => by simp [rawSnoc, rawAppend, rawAppend_snoc ps x xs]

theorem rawAppend_nil : ∀ (pre : RawList), rawAppend pre .nil = pre
  | .nil => rfl
  | .cons p ps => by simp [rawAppend, rawAppend_nil ps]

/-- the members after a prefix already read -/
theorem members_render : ∀ (es : RawList) (pre : RawList) (tp : List Tok), Renders 11 (.set pre) tp →
    (∀ x ∈ es.toList, Renders 5 x x.toks) → Renders 11 (.set (rawAppend pre es)) (tp ++ tailToks es)
  | .nil, pre, tp, hpre, _ => by simpa [rawAppend_nil, tailToks] using hpre
  | .cons x xs, pre, tp, hpre, hall => by
      have hx := hall x (by simp [RawList.toList])
      have h1 := Renders.setMore (symT ",") (by decide) hpre hx
      have := members_render xs (rawSnoc pre x) (tp ++ symT "," :: x.toks) h1 (fun y hy => hall y (by simp [RawList.toList, hy]))
      rw [rawAppend_snoc] at this
      simpa [tailToks, List.append_assoc] using this

theorem set_members_render (e : Raw) (es : RawList) (hall : ∀ x ∈ (RawList.cons e es).toList, Renders 5 x x.toks) :
    Renders 11 (.set (.cons e es)) (RawList.toksSep (.cons e es)) := by
  have h1 : Renders 11 (.set (.cons e .nil)) e.toks := .setOne (hall e (by simp [RawList.toList]))
  have := members_render es (.cons e .nil) e.toks h1 (fun y hy => hall y (by simp [RawList.toList, hy]))
  rw [toksSep_cons]
  simpa [rawAppend] using this

/-- the printed form of a printable tree never starts with `not` / `forall` / `exists` (operators and quantifiers are parenthesised,
    own fields are not named so) -/
theorem printed_headOk (x : Raw) (hp : x.printable = true) : HeadOk x.toks := by
  have h := ((reads x hp).phrase [] rfl).head
  rw [List.append_nil] at h
  intro t ts' he
  rw [he] at h
  exact h

theorem printed_headOk_append (x : Raw) (hp : x.printable = true) (more : List Tok) : HeadOk (x.toks ++ more) :=
  (printed_headOk x hp).append (fun h => absurd (toks_ne hp) (by rw [h]; decide)) more

theorem printed_ref {x : Raw} (h : Renders 10 x x.toks) :
    Renders 8 x x.toks ∧ (x.isAtomic = true → Renders 9 x x.toks) ∧ (x.isRef = true → Renders 10 x x.toks) :=
  ⟨up8 (.ref h), fun _ => .ref h, fun _ => h⟩

theorem printed_atom {x : Raw} (h : Renders 9 x x.toks) (hr : x.isRef = false) :
    Renders 8 x x.toks ∧ (x.isAtomic = true → Renders 9 x x.toks) ∧ (x.isRef = true → Renders 10 x x.toks) :=
  ⟨up8 h, fun _ => h, fun h' => Bool.noConfusion (hr.symm.trans h')⟩

theorem printed_paren {x : Raw} (h : Renders 8 x x.toks) (ha : x.isAtomic = false) (hr : x.isRef = false) :
    Renders 8 x x.toks ∧ (x.isAtomic = true → Renders 9 x x.toks) ∧ (x.isRef = true → Renders 10 x x.toks) :=
  ⟨h, fun h' => Bool.noConfusion (ha.symm.trans h'), fun h' => Bool.noConfusion (hr.symm.trans h')⟩

mutual
/-- every printable tree renders as its printed form: as an `_exponent`, and as an atomic value / a reference when it is one -/
theorem printed_renders : ∀ (x : Raw), x.printable = true →
    Renders 8 x x.toks ∧ (x.isAtomic = true → Renders 9 x x.toks) ∧ (x.isRef = true → Renders 10 x x.toks)
  | .lit tok v, hp => by
      exact printed_atom (litTok_renders hp) rfl
  | .this, hp => nomatch hp
  | .var v, _ => by
      have h10 : Renders 10 (.var v) [mkTok .var v] := .var (mkTok .var v) rfl
      exact printed_ref h10
  | .field m n, hp => by
      have h10 : Renders 10 (.field m n) (Raw.field m n).toks := by
        by_cases hm : m = .this
        · subst hm
          exact .own (wordT n) rfl (isNameTok_of_isName (printable_own hp))
        · have hmr := isRef_of_printable_field hm hp
          obtain ⟨hn, hpm⟩ := printable_field hmr hp
          rw [toks_field n hmr]
          exact .field (symT ".") (wordT n) (by decide) rfl hn ((printed_renders m hpm).2.2 hmr)
      exact printed_ref h10
  | .index a i, hp => by
      obtain ⟨ha, hpa, hpi⟩ := printable_index hp
      have h10 : Renders 10 (.index a i) (Raw.index a i).toks := by
        simp only [Raw.toks, List.append_assoc, List.cons_append, List.nil_append]
        exact .index (symT "[") (symT "]") (by decide) (by decide) ((printed_renders a hpa).2.2 ha) (upTo 3 5 (by omega) (printed_renders i hpi).1)
      exact printed_ref h10
  | .set .nil, hp => nomatch hp
  | .set (.cons e es), hp => by
      have h11 := set_members_render e es (printed_all (.cons e es) (Bool.and_eq_true_iff.1 hp).2)
      have h9 : Renders 9 (.set (.cons e es)) (Raw.set (.cons e es)).toks := by
        simp only [Raw.toks, List.append_assoc, List.cons_append, List.nil_append]
        exact .set (symT "{") (symT "}") (by decide) (by decide) h11
      exact printed_atom h9 rfl
  | .range lo hi exLo exHi, hp => by
      have hp := Bool.and_eq_true_iff.1 hp
      have hl := upTo 3 5 (by omega) (printed_renders lo hp.1).1
      have hh := upTo 3 5 (by omega) (printed_renders hi hp.2).1
      have h9 : Renders 9 (.range lo hi exLo exHi) (Raw.range lo hi exLo exHi).toks := by
        simp only [Raw.toks, List.append_assoc, List.cons_append, List.nil_append]
        have := Renders.range (symT (if exLo then "![" else "[")) (wordT "to") (symT (if exHi then "]!" else "]"))
          (by cases exLo <;> decide) (by decide) (by cases exHi <;> decide) hl hh
        cases exLo <;> cases exHi <;> simpa [symT, mkTok] using this
      exact printed_atom h9 rfl
  | .call f (.cons a .nil), hp => by
      have hp := Bool.and_eq_true_iff.1 hp
      have ha := upTo 3 5 (by omega) (printed_renders a hp.2).1
      have h9 : Renders 9 (.call f (.cons a .nil)) (Raw.call f (.cons a .nil)).toks := by
        simp only [Raw.toks, RawList.toksSep, List.append_assoc, List.cons_append, List.nil_append]
        exact .call (wordT f) (symT "(") (symT ")") rfl (isNameTok_of_isName hp.1) (by decide) (by decide) ha
      exact printed_atom h9 rfl
  | .call f .nil, hp => nomatch (Bool.and_eq_true_iff.1 hp).2
  | .call f (.cons _ (.cons _ _)), hp => nomatch (Bool.and_eq_true_iff.1 hp).2
  | .un op a, hp => by
      obtain ⟨hop, hpa⟩ := Bool.and_eq_true_iff.1 hp
      have ha := (printed_renders a hpa).1
      refine printed_paren ?_ rfl rfl
      rcases Bool.or_eq_true_iff.1 hop with h | h <;> cases eq_of_beq h
      · have h3 : Renders 3 (.un "not" a) (wordT "not" :: a.toks) := .not (wordT "not") (by decide) (upTo 5 3 (by omega) ha (fun _ _ => printed_headOk a hpa))
        have := Renders.paren (symT "(") (symT ")") (by decide) (by decide) (upTo 3 0 (by omega) h3)
        simpa [Raw.toks] using this
      · have h8 : Renders 8 (.un "-" a) (symT "-" :: a.toks) := .neg (symT "-") (by decide) ha
        have := Renders.paren (symT "(") (symT ")") (by decide) (by decide) (upTo 8 0 (by omega) h8)
        simpa [Raw.toks] using this
  | .bin op a b, hp => by
      obtain ⟨h1, hpb⟩ := Bool.and_eq_true_iff.1 hp
      obtain ⟨hop, hpa⟩ := Bool.and_eq_true_iff.1 h1
      obtain ⟨j, hj⟩ := Option.isSome_iff_exists.1 hop
      have ha := (printed_renders a hpa).1
      have hb := (printed_renders b hpb).1
      refine printed_paren ?_ rfl rfl
      obtain ⟨htext, hcase⟩ := opTok_level hj
      have inner : Renders 0 (.bin op a b) (a.toks ++ opTok op :: b.toks) := by
        rcases hcase with ⟨hl, ht⟩ | ⟨rfl, ht⟩
        · have hj7 : j ≤ 7 := by simp only [isLoopLevel, Bool.or_eq_true, beq_iff_eq] at hl; omega
          have := Renders.binL (opTok op) hl ht (upTo (8 - j) j (by omega) (by rw [show j + (8 - j) = 8 by omega]; exact ha) (fun _ _ => printed_headOk a hpa))
            (upTo (8 - (j + 1)) (j + 1) (by omega) (by rw [show j + 1 + (8 - (j + 1)) = 8 by omega]; exact hb) (fun _ _ => printed_headOk b hpb))
          rw [htext] at this
          exact upTo j 0 (by omega) (by rw [Nat.zero_add]; exact this) (fun _ _ => printed_headOk_append a hpa _)
        · have := Renders.rel (opTok op) ht (upTo 3 5 (by omega) ha) (upTo 3 5 (by omega) hb)
          rw [htext] at this
          exact upTo 4 0 (by omega) this (fun _ _ => printed_headOk_append a hpa _)
      have := Renders.paren (symT "(") (symT ")") (by decide) (by decide) inner
      simpa only [Raw.toks, List.append_assoc, List.cons_append, List.nil_append] using this
  | .quant q x d b, hp => by
      obtain ⟨h1, hpb⟩ := Bool.and_eq_true_iff.1 hp
      obtain ⟨h2, hda⟩ := Bool.and_eq_true_iff.1 h1
      obtain ⟨hx, hpd⟩ := Bool.and_eq_true_iff.1 h2
      have hd := (printed_renders d hpd).2.1 hda
      have hb := upTo 5 3 (by omega) (printed_renders b hpb).1 (fun _ _ => printed_headOk b hpb)
      refine printed_paren ?_ rfl rfl
      obtain ⟨kw, htoks, _, e2, e6⟩ := toks_quant q x d b
      have h3 := Renders.quant kw (wordT x) (wordT "in") (symT ":") e2 rfl hx (by decide) (by decide) hd hb
      simp only [e6, show (wordT x).text = x from rfl] at h3
      have := Renders.paren (symT "(") (symT ")") (by decide) (by decide) (upTo 3 0 (by omega) h3)
      rw [htoks]
      simpa only [List.append_assoc, List.cons_append] using this
theorem printed_all : ∀ (es : RawList), es.printable = true → ∀ x ∈ es.toList, Renders 5 x x.toks
  | .nil, _ => fun x hx => nomatch hx
  | .cons e es, hp => fun x hx => by
      have hp := Bool.and_eq_true_iff.1 hp
      rcases List.mem_cons.1 hx with hx | hx
      · exact hx ▸ upTo 3 5 (by omega) (printed_renders e hp.1).1
      · exact printed_all es hp.2 x hx
end

/-- **the grammar is unambiguous**: a token sequence is a `condition` for at most one tree (both trees are what the parser returns) -/
theorem renders_functional {e e' : Raw} {ts : List Tok} (h : Renders 0 e ts) (h' : Renders 0 e' ts) : e = e' := by
  have h1 := parse_complete h
  have h2 := parse_complete h'
  rw [h1] at h2
  exact Except.ok.inj h2

/-- the printed form of a printable tree is a `condition` of the grammar denoting that tree … -/
theorem printed_is_rendering (x : Raw) (hp : x.printable = true) : Renders 0 x x.toks :=
  upTo 8 0 (by omega) (printed_renders x hp).1 (fun _ _ => printed_headOk x hp)

/-- … so the round trip of C06 (`parse_toks_roundtrip`) is an instance of `parse_complete`.  This instance rests on the fuel bound of
    completeness (12 per token); the induction of `Props/C06b` proves the same statement with the tree's own bound `Raw.need`, which its
    intermediate results (`Reads`, `need_le`) state. -/
theorem roundtrip_from_completeness (x : Raw) (hp : x.printable = true) : parseExpressionToks x.toks = .ok x :=
  parse_complete (printed_is_rendering x hp)

end Hpl
