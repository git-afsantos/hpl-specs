import Hpl.Props.C09
import Hpl.Lemmas.Refs
/-!
# C10 — `refactor_reference` isolates the alias-dependent part without changing meaning

Model: `Hpl/Model/Rewrite/Refactor.lean`. Spec: `truth` (errors collapsed), `containsRef`.
As for C09, equivalence is stated as refinement: wherever both returned parts have a truth value, the input has the
value of their conjunction (`refactor_equiv`). That, and that the first part is free of the alias (`refactor_noRef`), is one
induction over the model's recursion (`refExpr_splits`), the same for every interpretation of the uninterpreted functions.
-/
namespace Hpl

theorem refAnd_ok {alias : String} {op a b : Expr} {r : Expr × Expr} (h : refAnd alias op a b = .ok r) :
    a.containsRef alias = true ∧ b.containsRef alias = false ∧ r = (b, a) ∨
    b.containsRef alias = true ∧ a.containsRef alias = false ∧ r = (a, b) ∨
    a.containsRef alias = true ∧ b.containsRef alias = true ∧ r = (trueLit, op) := by
  rcases ite_eq h with ⟨hc, h⟩ | ⟨_, h⟩
  · cases h
    exact .inl (by simpa using hc)
  · rcases ite_eq h with ⟨hc, h⟩ | ⟨_, h⟩
    · cases h
      exact .inr (.inl (by simpa using hc))
    · rcases ite_eq h with ⟨hc, h⟩ | ⟨_, h⟩
      · cases h
        exact .inr (.inr (by simpa using hc))
      · cases h

theorem refQuantAnd_ok {alias x : String} {quant d a b : Expr} {r : Expr × Expr}
    (h : refQuantAnd alias x quant d a b = .ok r) :
    (∃ qa qb, splitHalf x d a = .ok qa ∧ splitHalf x d b = .ok qb ∧
      (a.containsRef alias = true ∧ b.containsRef alias = false ∧ r = (qb, qa) ∨
       b.containsRef alias = true ∧ a.containsRef alias = false ∧ r = (qa, qb))) ∨
    a.containsRef alias = true ∧ b.containsRef alias = true ∧ r = (trueLit, quant) := by
  rcases ite_eq h with ⟨hc, h⟩ | ⟨_, h⟩
  · obtain ⟨qa, hqa, h⟩ := bind_ok h
    obtain ⟨qb, hqb, h⟩ := bind_ok h
    cases h
    exact .inl ⟨qa, qb, hqa, hqb, .inl (by simpa using hc)⟩
  · rcases ite_eq h with ⟨hc, h⟩ | ⟨_, h⟩
    · obtain ⟨qa, hqa, h⟩ := bind_ok h
      obtain ⟨qb, hqb, h⟩ := bind_ok h
      cases h
      exact .inl ⟨qa, qb, hqa, hqb, .inr (by simpa using hc)⟩
    · rcases ite_eq h with ⟨hc, h⟩ | ⟨_, h⟩
      · cases h
        exact .inr (by simpa using hc)
      · cases h

theorem refQuant_ok {alias : String} {quant : Expr} {r : Expr × Expr} (h : refQuant alias quant = .ok r) :
    r = (trueLit, quant) ∨
    ∃ t x d body, quant = .quant t .all x d body ∧ d.containsRef alias = false ∧
      ((∃ t2 a b, body = .bin t2 Gen.AND_OPERATOR a b ∧ refQuantAnd alias x quant d a b = .ok r) ∨
       (∃ t2 t3 a b na nb t' a' b', body = .un t2 Gen.NOT_OPERATOR (.bin t3 Gen.OR_OPERATOR a b) ∧
          mkNot a = .ok na ∧ mkNot b = .ok nb ∧ mkAnd na nb = .ok (.bin t' Gen.AND_OPERATOR a' b') ∧
          refQuantAnd alias x quant d a' b' = .ok r)) := by
  cases quant with
  | quant t q x d body =>
    rcases ite_eq h with ⟨_, h⟩ | ⟨hd, h⟩
    · exact .inl (Except.ok.inj h).symm
    · rcases ite_eq h with ⟨_, h⟩ | ⟨_, h⟩
      · cases h
      · cases q with
        | some => exact .inl (Except.ok.inj h).symm
        | all =>
          cases body with
          | bin t2 op a b =>
            rcases ite_eq h with ⟨ho, h⟩ | ⟨_, h⟩
            · cases eq_of_beq ho
              exact .inr ⟨t, x, d, _, rfl, Bool.eq_false_iff.2 hd, .inl ⟨t2, a, b, rfl, h⟩⟩
            · exact .inl (Except.ok.inj h).symm
          | un t2 op inner =>
            cases inner with
            | bin t3 op2 a b =>
              rcases ite_eq h with ⟨ho, h⟩ | ⟨_, h⟩
              · cases eq_of_beq (Bool.and_eq_true_iff.1 ho).1
                cases eq_of_beq (Bool.and_eq_true_iff.1 ho).2
                obtain ⟨na, hna, h⟩ := bind_ok h
                obtain ⟨nb, hnb, h⟩ := bind_ok h
                obtain ⟨e, he, h⟩ := bind_ok h
                obtain ⟨t', a', b', rfl⟩ := mkBin_shape he
                exact .inr ⟨t, x, d, _, rfl, Bool.eq_false_iff.2 hd, .inr ⟨t2, t3, a, b, na, nb, t', a', b', rfl, hna, hnb, he, h⟩⟩
              · exact .inl (Except.ok.inj h).symm
            | _ => exact .inl (Except.ok.inj h).symm
          | _ => exact .inl (Except.ok.inj h).symm
  | _ => cases h

theorem refExpr_ok {alias : String} {f : Nat} {e : Expr} {r : Expr × Expr} (h : refExpr alias (f + 1) e = .ok r) :
    e.containsRef alias = false ∧ r = (e, trueLit) ∨
    e.containsRef alias = true ∧
      (r = (trueLit, e) ∨ refQuant alias e = .ok r ∨
       (∃ t a, e = .un t Gen.NOT_OPERATOR a ∧ refNeg alias f e a = .ok r) ∨
       (∃ t a b, e = .bin t Gen.AND_OPERATOR a b ∧ refAnd alias e a b = .ok r)) := by
  rcases ite_eq h with ⟨hc, h⟩ | ⟨hc, h⟩
  · exact .inl ⟨by simpa using hc, (Except.ok.inj h).symm⟩
  · refine .inr ⟨by simpa using hc, ?_⟩
    rcases ite_eq h with ⟨_, h⟩ | ⟨_, h⟩
    · exact .inl (Except.ok.inj h).symm
    · rcases ite_eq h with ⟨_, h⟩ | ⟨_, h⟩
      · exact .inl (Except.ok.inj h).symm
      · cases e with
        | quant t q x d b => exact .inr (.inl h)
        | un t op a =>
          rcases ite_eq h with ⟨ho, h⟩ | ⟨_, h⟩
          · cases eq_of_beq ho
            exact .inr (.inr (.inl ⟨t, a, rfl, h⟩))
          · cases h
        | bin t op a b =>
          rcases ite_eq h with ⟨ho, h⟩ | ⟨_, h⟩
          · cases eq_of_beq ho
            exact .inr (.inr (.inr ⟨t, a, b, rfl, h⟩))
          · exact .inl (Except.ok.inj h).symm
        | _ => cases h

theorem refNeg_ok {alias : String} {f : Nat} {neg e : Expr} {r : Expr × Expr} (h : refNeg alias (f + 1) neg e = .ok r) :
    r = (trueLit, neg) ∨
    (∃ t a, e = .un t Gen.NOT_OPERATOR a ∧ refExpr alias f a = .ok r) ∨
    (∃ t x d p np q, e = .quant t .some x d p ∧ mkNot p = .ok np ∧ mkForall x d np = .ok q ∧ refQuant alias q = .ok r) ∨
    (∃ t a b nb t' a' b', e = .bin t Gen.IMPLIES_OPERATOR a b ∧ mkNot b = .ok nb ∧
      mkAnd a nb = .ok (.bin t' Gen.AND_OPERATOR a' b') ∧ refAnd alias (.bin t' Gen.AND_OPERATOR a' b') a' b' = .ok r) ∨
    (∃ t a b na nb t' a' b', e = .bin t Gen.OR_OPERATOR a b ∧ mkNot a = .ok na ∧ mkNot b = .ok nb ∧
      mkAnd na nb = .ok (.bin t' Gen.AND_OPERATOR a' b') ∧ refAnd alias (.bin t' Gen.AND_OPERATOR a' b') a' b' = .ok r) := by
  rcases ite_eq h with ⟨_, h⟩ | ⟨_, h⟩
  · cases h
  · rcases ite_eq h with ⟨_, h⟩ | ⟨_, h⟩
    · exact .inl (Except.ok.inj h).symm
    · cases e with
      | quant t q x d p =>
        cases q with
        | all => exact .inl (Except.ok.inj h).symm
        | some =>
          obtain ⟨np, hnp, h⟩ := bind_ok h
          rcases ite_eq h with ⟨_, h⟩ | ⟨_, h⟩
          · obtain ⟨q, hq, h⟩ := bind_ok h
            exact .inr (.inr (.inl ⟨t, x, d, p, np, q, rfl, hnp, hq, h⟩))
          · cases h
      | un t op a =>
        rcases ite_eq h with ⟨ho, h⟩ | ⟨_, h⟩
        · cases eq_of_beq ho
          exact .inr (.inl ⟨t, a, rfl, h⟩)
        · exact .inl (Except.ok.inj h).symm
      | bin t op a b =>
        rcases ite_eq h with ⟨ho, h⟩ | ⟨_, h⟩
        · cases eq_of_beq ho
          obtain ⟨nb, hnb, h⟩ := bind_ok h
          obtain ⟨c, hc, h⟩ := bind_ok h
          obtain ⟨t', a', b', rfl⟩ := mkBin_shape hc
          exact .inr (.inr (.inr (.inl ⟨t, a, b, nb, t', a', b', rfl, hnb, hc, h⟩)))
        · rcases ite_eq h with ⟨ho, h⟩ | ⟨_, h⟩
          · cases eq_of_beq ho
            obtain ⟨na, hna, h⟩ := bind_ok h
            obtain ⟨nb, hnb, h⟩ := bind_ok h
            obtain ⟨c, hc, h⟩ := bind_ok h
            obtain ⟨t', a', b', rfl⟩ := mkBin_shape hc
            exact .inr (.inr (.inr (.inr ⟨t, a, b, na, nb, t', a', b', rfl, hna, hnb, hc, h⟩)))
          · exact .inl (Except.ok.inj h).symm
      | _ => cases h

section
variable (opq : Opaque)

/-- the pair `(f1, f2)` conjoins to `e`: wherever both parts are defined, `e` is defined with the value `f1 and f2` -/
def Conjoins (f1 f2 e : Expr) : Prop :=
  ∀ ρ b1 b2, truth opq ρ f1 = some b1 → truth opq ρ f2 = some b2 → truth opq ρ e = some (b1 && b2)

theorem conjoins_true_right (e : Expr) : Conjoins opq e trueLit e := by
  intro ρ b1 b2 h1 h2
  cases h2
  rw [Bool.and_true]
  exact h1

theorem Conjoins.of_truth_eq {f1 f2 e e' : Expr} (h : Conjoins opq f1 f2 e) (he : ∀ ρ, truth opq ρ e = truth opq ρ e') :
    Conjoins opq f1 f2 e' := fun ρ b1 b2 h1 h2 => by rw [← he ρ]; exact h ρ b1 b2 h1 h2

theorem Conjoins.swap {f1 f2 e : Expr} (h : Conjoins opq f1 f2 e) : Conjoins opq f2 f1 e :=
  fun ρ b1 b2 h1 h2 => by rw [Bool.and_comm]; exact h ρ b2 b1 h2 h1

theorem conjoins_and (t : DataType) (a b : Expr) : Conjoins opq a b (.bin t Gen.AND_OPERATOR a b) := by
  intro ρ b1 b2 h1 h2
  rw [truth_and, h1, h2]
  rfl

end

/-- `(f1, f2)` splits `e` at `alias`: the two conjoin to `e` whatever the uninterpreted functions mean, and `f1` does not mention
    the alias -/
def Splits (alias : String) (f1 f2 e : Expr) : Prop := (∀ opq, Conjoins opq f1 f2 e) ∧ f1.containsRef alias = false

theorem trueLit_noRef (a : String) : trueLit.containsRef a = false := rfl

theorem Splits.true_left (alias : String) (e : Expr) : Splits alias trueLit e e :=
  ⟨fun _ _ _ _ h1 h2 => by cases h1; exact h2, rfl⟩

theorem Splits.of_truth_eq {alias : String} {f1 f2 e e' : Expr} (h : Splits alias f1 f2 e)
    (he : ∀ opq ρ, truth opq ρ e = truth opq ρ e') : Splits alias f1 f2 e' :=
  ⟨fun opq => (h.1 opq).of_truth_eq opq (he opq), h.2⟩

/-- `_split_ref_operator` on a conjunction -/
theorem refAnd_splits {alias : String} {a b f1 f2 : Expr} (t : DataType)
    (h : refAnd alias (.bin t Gen.AND_OPERATOR a b) a b = .ok (f1, f2)) : Splits alias f1 f2 (.bin t Gen.AND_OPERATOR a b) := by
  rcases refAnd_ok h with ⟨_, hb, h⟩ | ⟨_, ha, h⟩ | ⟨_, _, h⟩ <;> cases h
  · exact ⟨fun opq => (conjoins_and opq t a b).swap, hb⟩
  · exact ⟨fun opq => conjoins_and opq t a b, ha⟩
  · exact .true_left alias _

/-- `quant` stands for `A x in d: a and b` -/
theorem refQuantAnd_splits {alias x : String} {quant d a b f1 f2 : Expr} (t1 t2 : DataType) (hd : d.containsRef alias = false)
    (hq : ∀ opq ρ, truth opq ρ (.quant t1 .all x d (.bin t2 Gen.AND_OPERATOR a b)) = truth opq ρ quant)
    (h : refQuantAnd alias x quant d a b = .ok (f1, f2)) : Splits alias f1 f2 quant := by
  rcases refQuantAnd_ok h with ⟨qa, qb, hqa, hqb, ⟨_, hb, h⟩ | ⟨_, ha, h⟩⟩ | ⟨_, _, h⟩ <;> cases h
  · exact ⟨fun opq => (Conjoins.of_truth_eq opq (halves_conjoin opq t1 t2 hqa hqb) (hq opq)).swap,
      by rw [splitHalf_containsRef hqb, hd, hb]; rfl⟩
  · exact ⟨fun opq => Conjoins.of_truth_eq opq (halves_conjoin opq t1 t2 hqa hqb) (hq opq),
      by rw [splitHalf_containsRef hqa, hd, ha]; rfl⟩
  · exact .true_left alias _

/-- `_split_ref_quantifier` -/
theorem refQuant_splits {alias : String} {quant f1 f2 : Expr} (h : refQuant alias quant = .ok (f1, f2)) :
    Splits alias f1 f2 quant := by
  rcases refQuant_ok h with h | ⟨t, x, d, body, rfl, hd, ⟨t2, a, b, rfl, h⟩ | ⟨t2, t3, a, b, na, nb, t', a', b', rfl, hna, hnb, hc, h⟩⟩
  · cases h
    exact .true_left alias _
  · exact refQuantAnd_splits t t2 hd (fun _ _ => rfl) h
  · exact refQuantAnd_splits t t' hd
      (fun opq ρ => truth_forall_congr opq ρ t t x d _ _ (truth_mkDeMorgan opq hna hnb hc · t2 t3)) h

theorem refExpr_splits (alias : String) : ∀ f,
    (∀ e f1 f2, refExpr alias f e = .ok (f1, f2) → Splits alias f1 f2 e) ∧
    (∀ t a f1 f2, refNeg alias f (.un t Gen.NOT_OPERATOR a) a = .ok (f1, f2) → Splits alias f1 f2 (.un t Gen.NOT_OPERATOR a)) := by
  intro f
  induction f with
  | zero => refine ⟨fun _ _ _ h => ?_, fun _ _ _ _ h => ?_⟩ <;> cases h
  | succ f ih =>
    obtain ⟨ih1, ih2⟩ := ih
    refine ⟨fun e f1 f2 h => ?_, fun t a f1 f2 h => ?_⟩
    · rcases refExpr_ok h with ⟨hc, h⟩ | ⟨_, h | h | ⟨t, a, rfl, h⟩ | ⟨t, a, b, rfl, h⟩⟩
      · cases h
        exact ⟨fun opq => conjoins_true_right opq _, hc⟩
      · cases h
        exact .true_left alias _
      · exact refQuant_splits h
      · exact ih2 t a f1 f2 h
      · exact refAnd_splits t h
    · rcases refNeg_ok h with hr | ⟨t2, p, rfl, hr⟩ | ⟨t2, x, d, p, np, q, rfl, hnp, hq, hr⟩ |
        ⟨t2, p, q, nb, t', a', b', rfl, hnb, hc, hr⟩ | ⟨t2, p, q, na, nb, t', a', b', rfl, hna, hnb, hc, hr⟩
      · cases hr
        exact .true_left alias _
      · exact (ih1 p f1 f2 hr).of_truth_eq fun opq ρ => (truth_notNot opq ρ t t2 p).symm
      · exact (refQuant_splits hr).of_truth_eq fun opq ρ => truth_mkNotExists opq hnp hq ρ t t2
      · exact (refAnd_splits t' hr).of_truth_eq fun opq ρ => truth_mkNotImp opq hnb hc ρ t t2
      · exact (refAnd_splits t' hr).of_truth_eq fun opq ρ => truth_mkDeMorgan opq hna hnb hc ρ t t2

section
variable (opq : Opaque)

/-- **C10 (equivalence)**: wherever both returned expressions have a truth value, the input has the value `f1 and f2` -/
theorem refactor_equiv (e f1 f2 : Expr) (alias : String) (h : refactorExpr e alias = .ok (f1, f2))
    (ρ : Env) (b1 b2 : Bool) (h1 : truth opq ρ f1 = some b1) (h2 : truth opq ρ f2 = some b2) :
    truth opq ρ e = some (b1 && b2) :=
  ((refExpr_splits alias _).1 e f1 f2 h).1 opq ρ b1 b2 h1 h2

end

/-- **C10 (isolation)**: the first returned expression contains no reference to the alias -/
theorem refactor_noRef (e f1 f2 : Expr) (alias : String) (h : refactorExpr e alias = .ok (f1, f2)) :
    f1.containsRef alias = false :=
  ((refExpr_splits alias _).1 e f1 f2 h).2

/-- **C10 (unchanged)**: when the expression does not mention the alias the result is the expression itself paired with True -/
theorem refactor_unchanged (e : Expr) (alias : String) (h : e.containsRef alias = false) :
    refactorExpr e alias = .ok (e, trueLit) :=
  if_pos (by rw [h]; rfl)

/-- non-vacuity: `forall i in xs: (@i > 0 and @A.b)` with alias A splits into `len(xs) = 0 or @A.b` and the quantifier -/
def exC10 : Expr :=
  .quant T.BOOL .all "i" (.field T.ARRAY (.this T.MESSAGE) "xs")
    (.bin T.BOOL "and" (.bin T.BOOL ">" (.var T.NUMBER "i") (.lit T.NUMBER "0" (.int 0))) (.field T.BOOL (.var T.MESSAGE "A") "b"))
example : ∃ f1 f2, refactorExpr exC10 "A" = .ok (f1, f2) ∧ f1.containsRef "A" = false ∧ f2.containsRef "A" = true := by
  refine ⟨_, _, by rfl, by rfl, by rfl⟩

end Hpl
