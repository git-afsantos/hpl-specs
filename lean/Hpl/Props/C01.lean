import Hpl.Model.Parser
/-! # C01 — parsing builds exactly the tree the grammar assigns: a fact about keywords at the token level.
    The theorems of the property are in C01b–C01g. -/
namespace Hpl

/-- a word is a keyword only when it is that word exactly and does not directly follow a word character: a name that
    merely begins with a keyword is one name (the scanner takes identifiers by longest match, see `scan`) -/
theorem isKw_exact (t : Tok) (s : String) (h : isKw t s = true) : t.kind = .word ∧ t.text = s ∧ t.afterWord = false := by
  simp only [isKw, Bool.and_eq_true, beq_iff_eq, Bool.not_eq_true'] at h
  exact ⟨h.1.1, h.1.2, h.2⟩

end Hpl
