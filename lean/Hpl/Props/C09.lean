import Hpl.Lemmas.Eval
import Hpl.Lemmas.OptList
import Hpl.Spec.Shapes
/-!
# C09 — `split_and` returns an equivalent list of indivisible conjuncts

Model: `Hpl/Model/Rewrite/Split.lean`. Spec: `truth` (`Hpl/Lemmas/Eval.lean`: the boolean value of `eval` of `Hpl/Spec/Eval.lean`, errors collapsed) and
`indivisible` (`Hpl/Spec/Shapes.lean`).

Equivalence is stated as *refinement*: wherever every returned conjunct is defined, the input is defined and has the
value of their conjunction (`splitAnd_equiv`). The property speaks of truth values on valuations and says nothing about
evaluation errors; refinement is used because it is transitive and so composes through the pre-split transformations
and the work list. Every step is exact (`truth` equal, undefinedness included) except the one the code's own guard
creates: a conjunct hoisted out of a universal quantifier as `len(d) = 0 or p` is evaluated even when `d` is empty.
-/
namespace Hpl

/-! ## how the model functions dispatch when they succeed
    (`ite_eq`, `bind_ok` and `cases` see through the definitions; unfolding them by their equation lemmas first is slow to check) -/
theorem splitHalf_ok {x : String} {d a h : Expr} (hh : splitHalf x d a = .ok h) :
    a.containsRef x = true ∧ mkForall x d a = .ok h ∨
    a.containsRef x = false ∧ ∃ te, emptyTest d = .ok te ∧ mkOr te a = .ok h := by
  rcases ite_eq hh with ⟨hx, hh⟩ | ⟨hx, hh⟩
  · exact .inl ⟨hx, hh⟩
  · obtain ⟨te, hte, hh⟩ := bind_ok hh
    exact .inr ⟨Bool.eq_false_iff.2 hx, te, hte, hh⟩

theorem presplit_ok {f : Nat} {e r : Expr} (h : presplit (f + 1) e = .ok r) :
    (r = e ∧ e.isNeg = false ∧ ∀ t q x d phi, e ≠ .quant t q x d phi) ∨
    (∃ t phi, e = .un t Gen.NOT_OPERATOR phi ∧ splitNot f e phi = .ok r) ∨
    (∃ t q x d phi, e = .quant t q x d phi ∧ splitQuant f e q x d phi = .ok r) := by
  cases e with
  | un t op phi =>
    rcases ite_eq h with ⟨ho, h⟩ | ⟨ho, h⟩
    · cases eq_of_beq ho
      exact .inr (.inl ⟨t, phi, rfl, h⟩)
    · cases h
      exact .inl ⟨rfl, Bool.eq_false_iff.2 ho, fun _ _ _ _ _ h => Expr.noConfusion h⟩
  | quant t q x d phi => exact .inr (.inr ⟨t, q, x, d, phi, rfl, h⟩)
  | _ =>
    cases h
    exact .inl ⟨rfl, rfl, fun _ _ _ _ _ h => Expr.noConfusion h⟩

theorem splitNot_ok {f : Nat} {neg phi r : Expr} (h : splitNot (f + 1) neg phi = .ok r) :
    (r = neg ∧ phi.isNeg = false ∧ phi.isDisjn = false ∧ phi.isImpl = false ∧ phi.isExists = false) ∨
    (∃ t p, phi = .un t Gen.NOT_OPERATOR p ∧ presplit f p = .ok r) ∨
    (∃ t a b na nb, phi = .bin t Gen.OR_OPERATOR a b ∧ mkNot a = .ok na ∧ mkNot b = .ok nb ∧ mkAnd na nb = .ok r) ∨
    (∃ t a b nb, phi = .bin t Gen.IMPLIES_OPERATOR a b ∧ mkNot b = .ok nb ∧ mkAnd a nb = .ok r) ∨
    (∃ t x d p np q, phi = .quant t .some x d p ∧ mkNot p = .ok np ∧ np.containsRef x = true ∧ mkForall x d np = .ok q ∧
      ∃ td tb, q = .quant T.BOOL .all x (d.withTy td) (np.withTy tb) ∧
        splitQuant f q .all x (d.withTy td) (np.withTy tb) = .ok r) := by
  cases phi with
  | un t op p =>
    rcases ite_eq h with ⟨ho, h⟩ | ⟨ho, h⟩
    · cases eq_of_beq ho
      exact .inr (.inl ⟨t, p, rfl, h⟩)
    · cases h
      exact .inl ⟨rfl, Bool.eq_false_iff.2 ho, rfl, rfl, rfl⟩
  | bin t op a b =>
    rcases ite_eq h with ⟨ho, h⟩ | ⟨ho, h⟩
    · cases eq_of_beq ho
      obtain ⟨na, hna, h⟩ := bind_ok h
      obtain ⟨nb, hnb, h⟩ := bind_ok h
      exact .inr (.inr (.inl ⟨t, a, b, na, nb, rfl, hna, hnb, h⟩))
    · rcases ite_eq h with ⟨hi, h⟩ | ⟨hi, h⟩
      · cases eq_of_beq hi
        obtain ⟨nb, hnb, h⟩ := bind_ok h
        exact .inr (.inr (.inr (.inl ⟨t, a, b, nb, rfl, hnb, h⟩)))
      · cases h
        exact .inl ⟨rfl, rfl, Bool.eq_false_iff.2 ho, Bool.eq_false_iff.2 hi, rfl⟩
  | quant t q x d p =>
    cases q with
    | all =>
      cases h
      exact .inl ⟨rfl, rfl, rfl, rfl, rfl⟩
    | some =>
      obtain ⟨np, hnp, h⟩ := bind_ok h
      rcases ite_eq h with ⟨hx, h⟩ | ⟨_, h⟩
      · obtain ⟨q, hq, h⟩ := bind_ok h
        obtain ⟨td, tb, rfl⟩ := mkQuant_narrow hq
        exact .inr (.inr (.inr (.inr ⟨t, x, d, p, np, _, rfl, hnp, hx, hq, td, tb, rfl, h⟩)))
      · cases h
  | _ =>
    cases h
    exact .inl ⟨rfl, rfl, rfl, rfl, rfl⟩

theorem splitQuant_ok {f : Nat} {q : Quant} {x : String} {quant d phi r : Expr}
    (h : splitQuant (f + 1) quant q x d phi = .ok r) :
    (q = .all ∧ ∃ phi', presplit f phi = .ok phi' ∧
      ((∃ t a b qa qb, phi' = .bin t Gen.AND_OPERATOR a b ∧ splitHalf x d a = .ok qa ∧ splitHalf x d b = .ok qb ∧
          mkAnd qa qb = .ok r) ∨
       (r = quant ∧ phi'.isConj = false))) ∨
    (q = .some ∧ r = quant) := by
  cases q with
  | some =>
    cases h
    exact .inr ⟨rfl, rfl⟩
  | all =>
    obtain ⟨phi', hphi', h⟩ := bind_ok h
    refine .inl ⟨rfl, phi', hphi', ?_⟩
    cases phi' with
    | bin t op a b =>
      rcases ite_eq h with ⟨ho, h⟩ | ⟨ho, h⟩
      · cases eq_of_beq ho
        obtain ⟨qa, hqa, h⟩ := bind_ok h
        obtain ⟨qb, hqb, h⟩ := bind_ok h
        exact .inl ⟨t, a, b, qa, qb, rfl, hqa, hqb, h⟩
      · cases h
        exact .inr ⟨rfl, Bool.eq_false_iff.2 ho⟩
    | _ =>
      cases h
      exact .inr ⟨rfl, rfl⟩

theorem splitLoop_succ {f : Nat} {stack acc : List Expr} {R : M (List Expr)} (h : splitLoop (f + 1) stack acc = R) :
    stack = [] ∧ R = .ok acc ∨
    ∃ e rest, stack = e :: rest ∧
      (isTrueLit e = true ∧ splitLoop f rest acc = R ∨
       isFalseLit e = true ∧ R = .error .value ∨
       (∃ x, presplit (splitFuel e) e = .error x ∧ R = .error x) ∨
       ∃ e', presplit (splitFuel e) e = .ok e' ∧
        ((∃ t a b, e' = .bin t Gen.AND_OPERATOR a b ∧ splitLoop f (b :: a :: rest) acc = R) ∨
         (isAnd e' = false ∧ splitLoop f rest (acc ++ [e']) = R))) := by
  cases stack with
  | nil => exact .inl ⟨rfl, h.symm⟩
  | cons e rest =>
    refine .inr ⟨e, rest, rfl, ?_⟩
    rcases ite_eq h with ⟨ht, h⟩ | ⟨_, h⟩
    · exact .inl ⟨ht, h⟩
    · rcases ite_eq h with ⟨hf, h⟩ | ⟨_, h⟩
      · exact .inr (.inl ⟨hf, h.symm⟩)
      · cases he : presplit (splitFuel e) e with
        | error x =>
          rw [he] at h
          exact .inr (.inr (.inl ⟨x, rfl, h.symm⟩))
        | ok e' =>
          rw [he] at h
          refine .inr (.inr (.inr ⟨e', rfl, ?_⟩))
          cases e' with
          | bin t op a b =>
            rcases ite_eq h with ⟨ho, h⟩ | ⟨ho, h⟩
            · cases eq_of_beq ho
              exact .inl ⟨t, a, b, rfl, h⟩
            · exact .inr ⟨Bool.eq_false_iff.2 ho, h⟩
          | _ => exact .inr ⟨rfl, h⟩

section
variable (opq : Opaque)

/-! ## vocabulary -/
/-- `e` evaluates like `e'` under every valuation (stored types are irrelevant to evaluation) -/
def EvalLike (e e' : Expr) : Prop := ∀ ρ, eval opq ρ e = eval opq ρ e'

theorem truth_of_like {e e' : Expr} (h : EvalLike opq e e') (ρ : Env) : truth opq ρ e = truth opq ρ e' := by
  unfold truth; rw [h ρ]

/-- `e'` refines `e`: wherever the rewritten form has a truth value, the original has the same one -/
def Refines (e' e : Expr) : Prop := ∀ ρ v, truth opq ρ e' = some v → truth opq ρ e = some v

theorem Refines.refl (e : Expr) : Refines opq e e := fun _ _ h => h
theorem Refines.trans {a b c : Expr} (h1 : Refines opq a b) (h2 : Refines opq b c) : Refines opq a c :=
  fun ρ v h => h2 ρ v (h1 ρ v h)
theorem Refines.of_eq {a b : Expr} (h : ∀ ρ, truth opq ρ a = truth opq ρ b) : Refines opq a b :=
  fun ρ _ hv => h ρ ▸ hv

theorem mkNot_like {a e : Expr} (h : mkNot a = .ok e) : EvalLike opq e (.un T.BOOL Gen.NOT_OPERATOR a) :=
  fun ρ => mkUn_eval opq h ρ
theorem mkAnd_like {a b e : Expr} (h : mkAnd a b = .ok e) : EvalLike opq e (.bin T.BOOL Gen.AND_OPERATOR a b) :=
  fun ρ => mkBin_eval opq h ρ
theorem mkOr_like {a b e : Expr} (h : mkOr a b = .ok e) : EvalLike opq e (.bin T.BOOL Gen.OR_OPERATOR a b) :=
  fun ρ => mkBin_eval opq h ρ

/-! ## quantifiers through `allO` / `anyO` -/
theorem truth_forall (ρ : Env) (t : DataType) (x : String) (d b : Expr) :
    truth opq ρ (.quant t .all x d b) = (domElems opq ρ d).bind (fun es => allO es (fun v => truth opq (ρ.bind x v) b)) :=
  truth_quant opq ρ t .all x d b

theorem truth_exists (ρ : Env) (t : DataType) (x : String) (d b : Expr) :
    truth opq ρ (.quant t .some x d b) = (domElems opq ρ d).bind (fun es => anyO es (fun v => truth opq (ρ.bind x v) b)) :=
  truth_quant opq ρ t .some x d b

/-- two bodies with equal truth values under every valuation give universal quantifiers with equal truth values -/
theorem truth_forall_congr (ρ : Env) (t1 t2 : DataType) (x : String) (d p p' : Expr)
    (h : ∀ ρ', truth opq ρ' p = truth opq ρ' p') :
    truth opq ρ (.quant t1 .all x d p) = truth opq ρ (.quant t2 .all x d p') := by
  rw [truth_forall, truth_forall]
  cases domElems opq ρ d with
  | none => rfl
  | some es => exact allO_congr es _ _ (fun v => h _)

/-! ## exact rewrites -/
theorem truth_notNot (ρ : Env) (t1 t2 : DataType) (p : Expr) :
    truth opq ρ (.un t1 Gen.NOT_OPERATOR (.un t2 Gen.NOT_OPERATOR p)) = truth opq ρ p := by
  rw [truth_not, truth_not]
  cases truth opq ρ p <;> simp

theorem truth_mkNot {a e : Expr} (h : mkNot a = .ok e) (ρ : Env) : truth opq ρ e = (truth opq ρ a).map (!·) := by
  rw [truth_of_like opq (mkNot_like opq h), truth_not]

theorem truth_mkAnd {a b e : Expr} (h : mkAnd a b = .ok e) (ρ : Env) :
    truth opq ρ e = (do let x ← truth opq ρ a; let y ← truth opq ρ b; pure (x && y)) := by
  rw [truth_of_like opq (mkAnd_like opq h), truth_and]

theorem truth_mkDeMorgan {a b na nb c : Expr} (hna : mkNot a = .ok na) (hnb : mkNot b = .ok nb) (hc : mkAnd na nb = .ok c)
    (ρ : Env) (t1 t2 : DataType) : truth opq ρ c = truth opq ρ (.un t1 Gen.NOT_OPERATOR (.bin t2 Gen.OR_OPERATOR a b)) := by
  rw [truth_mkAnd opq hc, truth_mkNot opq hna, truth_mkNot opq hnb, truth_not, truth_or]
  cases truth opq ρ a <;> cases truth opq ρ b <;> simp [bind, Option.bind, pure]

theorem truth_mkNotImp {a b nb c : Expr} (hnb : mkNot b = .ok nb) (hc : mkAnd a nb = .ok c)
    (ρ : Env) (t1 t2 : DataType) : truth opq ρ c = truth opq ρ (.un t1 Gen.NOT_OPERATOR (.bin t2 Gen.IMPLIES_OPERATOR a b)) := by
  rw [truth_mkAnd opq hc, truth_mkNot opq hnb, truth_not, truth_implies]
  cases truth opq ρ a <;> cases truth opq ρ b <;> simp [bind, Option.bind, pure]

theorem truth_mkNotExists {x : String} {d p np q : Expr} (hnp : mkNot p = .ok np) (hq : mkForall x d np = .ok q)
    (ρ : Env) (t1 t2 : DataType) : truth opq ρ q = truth opq ρ (.un t1 Gen.NOT_OPERATOR (.quant t2 .some x d p)) := by
  rw [truth_of_like opq (mkQuant_eval opq hq), truth_forall, truth_not, truth_exists]
  cases domElems opq ρ d with
  | none => rfl
  | some es =>
    simp only [Option.bind]
    rw [anyO_not]
    exact allO_congr es _ _ fun v => truth_mkNot opq hnp _

/-- congruence: refining the body refines the universal quantifier -/
theorem refines_forall (t1 t2 : DataType) (x : String) (d p' p : Expr) (h : Refines opq p' p) :
    Refines opq (.quant t1 .all x d p') (.quant t2 .all x d p) := by
  intro ρ v hv
  rw [truth_forall] at hv ⊢
  obtain ⟨es, hd, hv⟩ := Option.bind_eq_some_iff.1 hv
  rw [hd]
  exact allO_mono es _ _ (fun w r hr => h _ r hr) v hv

/-! ## the quantifier split -/
/-- what either form of a split half says: the universal statement over the domain -/
theorem splitHalf_spec {x : String} {d a h : Expr} (hh : splitHalf x d a = .ok h) (ρ : Env) (v : Bool)
    (hv : truth opq ρ h = some v) :
    ∃ es, domElems opq ρ d = some es ∧ allO es (fun w => truth opq (ρ.bind x w) a) = some v := by
  rcases splitHalf_ok hh with ⟨_, hh⟩ | ⟨hx, te, hte, hh⟩
  · -- still quantified
    rw [truth_of_like opq (mkQuant_eval opq hh), truth_forall] at hv
    exact Option.bind_eq_some_iff.1 hv
  · -- hoisted behind the empty-domain guard
    rw [truth_of_like opq (mkOr_like opq hh), truth_or, truth_emptyTest opq hte] at hv
    obtain ⟨em, b, hem, ha, rfl⟩ := map2_some hv
    obtain ⟨es, hd, rfl⟩ := Option.map_eq_some_iff.1 hem
    refine ⟨es, hd, ?_⟩
    rw [allO_congr es _ (fun _ => some b) fun w => by rw [truth_bind_unused opq ρ x w a hx, ha], allO_const]

/-- the two halves of a split universal quantifier conjoin to it -/
theorem halves_conjoin {x : String} {d a b qa qb : Expr} (t1 t2 : DataType)
    (ha : splitHalf x d a = .ok qa) (hb : splitHalf x d b = .ok qb) (ρ : Env) (va vb : Bool)
    (hqa : truth opq ρ qa = some va) (hqb : truth opq ρ qb = some vb) :
    truth opq ρ (.quant t1 .all x d (.bin t2 Gen.AND_OPERATOR a b)) = some (va && vb) := by
  obtain ⟨es, hd, hxa⟩ := splitHalf_spec opq ha ρ va hqa
  obtain ⟨es', hd', hxb⟩ := splitHalf_spec opq hb ρ vb hqb
  rw [hd] at hd'; cases hd'
  rw [truth_forall, hd]
  simp only [Option.bind]
  have := allO_and es (fun w => truth opq (ρ.bind x w) a) (fun w => truth opq (ρ.bind x w) b)
  rw [allO_congr es _ _ (fun w => truth_and opq (ρ.bind x w) t2 a b), this, hxa, hxb]
  rfl

/-- `(A x: a and b)` is refined by `half a and half b` -/
theorem refines_forallAnd {x : String} {d a b qa qb c : Expr} (t1 t2 : DataType)
    (ha : splitHalf x d a = .ok qa) (hb : splitHalf x d b = .ok qb) (hc : mkAnd qa qb = .ok c) :
    Refines opq c (.quant t1 .all x d (.bin t2 Gen.AND_OPERATOR a b)) := by
  intro ρ v hv
  rw [truth_mkAnd opq hc] at hv
  obtain ⟨va, vb, hqa, hqb, rfl⟩ := map2_some hv
  exact halves_conjoin opq t1 t2 ha hb ρ va vb hqa hqb

/-! ## the pre-split transformations refine their input, and return a conjunction or something indivisible -/
theorem presplit_refines : ∀ f,
    (∀ e e', presplit f e = .ok e' → Refines opq e' e) ∧
    (∀ t phi e', splitNot f (.un t Gen.NOT_OPERATOR phi) phi = .ok e' → Refines opq e' (.un t Gen.NOT_OPERATOR phi)) ∧
    (∀ t q x d phi e', splitQuant f (.quant t q x d phi) q x d phi = .ok e' → Refines opq e' (.quant t q x d phi)) := by
  intro f
  induction f with
  | zero => refine ⟨fun _ _ h => ?_, fun _ _ _ h => ?_, fun _ _ _ _ _ _ h => ?_⟩ <;> cases h
  | succ f ih =>
    obtain ⟨ih1, ih2, ih3⟩ := ih
    refine ⟨fun e e' h => ?_, fun t phi e' h => ?_, fun t q x d phi e' h => ?_⟩
    · rcases presplit_ok h with ⟨rfl, _⟩ | ⟨t, phi, rfl, h⟩ | ⟨t, q, x, d, phi, rfl, h⟩
      · exact Refines.refl opq _
      · exact ih2 t phi e' h
      · exact ih3 t q x d phi e' h
    · rcases splitNot_ok h with ⟨rfl, _⟩ | ⟨t2, p, rfl, h⟩ | ⟨t2, a, b, na, nb, rfl, hna, hnb, h⟩ | ⟨t2, a, b, nb, rfl, hnb, h⟩ |
        ⟨t2, x, d, p, np, q, rfl, hnp, _, hq, td, tb, rfl, h⟩
      · exact Refines.refl opq _
      · exact (ih1 p e' h).trans opq (.of_eq opq fun ρ => (truth_notNot opq ρ t t2 p).symm)
      · exact .of_eq opq fun ρ => truth_mkDeMorgan opq hna hnb h ρ t t2
      · exact .of_eq opq fun ρ => truth_mkNotImp opq hnb h ρ t t2
      · exact (ih3 _ _ _ _ _ e' h).trans opq (.of_eq opq fun ρ => truth_mkNotExists opq hnp hq ρ t t2)
    · rcases splitQuant_ok h with ⟨rfl, phi', hphi', ⟨t2, a, b, qa, qb, rfl, hqa, hqb, h⟩ | ⟨rfl, _⟩⟩ | ⟨_, rfl⟩
      · exact (refines_forallAnd opq t t2 hqa hqb h).trans opq (refines_forall opq t t x d _ phi (ih1 phi _ hphi'))
      · exact Refines.refl opq _
      · exact Refines.refl opq _

/-! ## the work list -/
/-- strict conjunction of a list of formulas -/
def truthAll (ρ : Env) (ps : List Expr) : Option Bool := allO ps (truth opq ρ)

theorem truthAll_cons (ρ : Env) (p : Expr) (ps : List Expr) :
    truthAll opq ρ (p :: ps) = (do let a ← truth opq ρ p; let b ← truthAll opq ρ ps; pure (a && b)) := allO_cons p ps _

theorem truthAll_refines_head {e' e : Expr} (h : Refines opq e' e) (ρ : Env) (l : List Expr) (v : Bool)
    (hv : truthAll opq ρ (e' :: l) = some v) : truthAll opq ρ (e :: l) = some v := by
  rw [truthAll_cons] at hv ⊢
  obtain ⟨a, b, he, hl, rfl⟩ := map2_some hv
  rw [h ρ a he, hl]
  rfl

theorem truthAll_and (ρ : Env) (t : DataType) (a b : Expr) (l : List Expr) :
    truthAll opq ρ (.bin t Gen.AND_OPERATOR a b :: l) = truthAll opq ρ (a :: b :: l) := by
  rw [truthAll_cons, truthAll_cons, truthAll_cons, truth_and]
  cases truth opq ρ a <;> cases truth opq ρ b <;> cases truthAll opq ρ l <;> simp [bind, Option.bind, pure, Bool.and_assoc]

theorem isTrueLit_truth (ρ : Env) (e : Expr) (h : isTrueLit e = true) : truth opq ρ e = some true := by
  unfold isTrueLit at h
  split at h
  · rfl
  · cases h

/-- every iteration keeps the work list and the results, taken together, a refinement of what they were: a literal
    `True` is dropped, and the transformed head either moves to the results or is replaced by its two operands -/
theorem splitLoop_refines : ∀ (f : Nat) (stack acc ps : List Expr), splitLoop f stack acc = .ok ps →
    ∀ ρ v, truthAll opq ρ ps = some v → truthAll opq ρ (stack ++ acc) = some v := by
  intro f
  induction f with
  | zero => intro stack acc ps h; cases h
  | succ f ih =>
    intro stack acc ps h ρ v hv
    rcases splitLoop_succ h with ⟨rfl, ⟨⟩⟩ | ⟨e, rest, rfl, ⟨ht, h⟩ | ⟨_, ⟨⟩⟩ | ⟨_, _, ⟨⟩⟩ | ⟨e', he', ⟨t, a, b, rfl, h⟩ | ⟨_, h⟩⟩⟩
    · exact hv
    · have := ih rest acc ps h ρ v hv
      rw [List.cons_append, truthAll_cons, isTrueLit_truth opq ρ e ht, this]
      rfl
    · rw [List.cons_append]
      apply truthAll_refines_head opq ((presplit_refines opq _).1 e _ he')
      rw [truthAll_and, truthAll, allO_perm (List.Perm.swap b a (rest ++ acc))]
      exact ih (b :: a :: rest) acc ps h ρ v hv
    · rw [List.cons_append]
      apply truthAll_refines_head opq ((presplit_refines opq _).1 e _ he')
      rw [truthAll, ← allO_perm (List.perm_append_singleton e' (rest ++ acc)), List.append_assoc]
      exact ih rest (acc ++ [e']) ps h ρ v hv

/-- **C09 (equivalence)**: on every valuation under which all returned expressions have a truth value, the input has
    the truth value of their conjunction -/
theorem splitAnd_equiv (e : Expr) (ps : List Expr) (h : splitAnd e = .ok ps) (ρ : Env) (v : Bool)
    (hv : truthAll opq ρ ps = some v) : truth opq ρ e = some v := by
  have := splitLoop_refines opq _ [e] [] ps h ρ v hv
  rw [List.append_nil, truthAll_cons] at this
  obtain ⟨a, b, ha, hb, rfl⟩ := map2_some this
  have hb : some true = some b := hb
  cases hb
  rw [ha, Bool.and_true]

end

/-! ## shape of the result -/
theorem indivisible_not_conj (e : Expr) (h : indivisible e = true) : e.isConj = false := by
  cases e with
  | bin t op a b => exact (Bool.not_eq_true' _).mp h
  | _ => rfl

theorem mkAnd_isAnd {a b e : Expr} (h : mkAnd a b = .ok e) : isAnd e = true := by
  obtain ⟨t, a', b', rfl⟩ := mkBin_shape h
  exact beq_self_eq_true _

theorem presplit_isConj {f : Nat} {e e' : Expr} (h : presplit f e = .ok e') (hc : e.isConj = true) : e'.isConj = true := by
  cases f with
  | zero => cases h
  | succ f =>
    cases e with
    | bin t op a b => cases h; exact hc
    | _ => cases hc

/-- every pre-split transformation returns a conjunction or an indivisible expression -/
theorem presplit_shape : ∀ f,
    (∀ e e', presplit f e = .ok e' → isAnd e' = true ∨ indivisible e' = true) ∧
    (∀ t phi e', splitNot f (.un t Gen.NOT_OPERATOR phi) phi = .ok e' → isAnd e' = true ∨ indivisible e' = true) ∧
    (∀ t q x d phi e', splitQuant f (.quant t q x d phi) q x d phi = .ok e' → isAnd e' = true ∨ indivisible e' = true) := by
  intro f
  induction f with
  | zero => refine ⟨fun _ _ h => ?_, fun _ _ _ h => ?_, fun _ _ _ _ _ _ h => ?_⟩ <;> cases h
  | succ f ih =>
    obtain ⟨ih1, ih2, ih3⟩ := ih
    refine ⟨fun e e' h => ?_, fun t phi e' h => ?_, fun t q x d phi e' h => ?_⟩
    · rcases presplit_ok h with ⟨rfl, hn, hq⟩ | ⟨t, phi, rfl, h⟩ | ⟨t, q, x, d, phi, rfl, h⟩
      · cases e' with
        | bin t op a b =>
          cases ho : op == Gen.AND_OPERATOR with
          | true => exact .inl ho
          | false => exact .inr (by rw [indivisible, bne, ho, Bool.not_false])
        | un t op a =>
          have hn : (op == Gen.NOT_OPERATOR) = false := hn
          exact .inr (by rw [indivisible, hn, Bool.false_and, Bool.not_false])
        | quant t q x d p => exact absurd rfl (hq t q x d p)
        | _ => exact .inr rfl
      · exact ih2 t phi e' h
      · exact ih3 t q x d phi e' h
    · rcases splitNot_ok h with ⟨rfl, h1, h2, h3, h4⟩ | ⟨t2, p, rfl, h⟩ | ⟨t2, a, b, na, nb, rfl, _, _, h⟩ | ⟨t2, a, b, nb, rfl, _, h⟩ |
        ⟨t2, x, d, p, np, q, rfl, _, _, _, td, tb, rfl, h⟩
      · exact .inr (by simp [indivisible, h1, h2, h3, h4])
      · exact ih1 p e' h
      · exact .inl (mkAnd_isAnd h)
      · exact .inl (mkAnd_isAnd h)
      · exact ih3 _ _ _ _ _ e' h
    · rcases splitQuant_ok h with ⟨rfl, phi', hphi', ⟨t2, a, b, qa, qb, rfl, _, _, h⟩ | ⟨rfl, hc⟩⟩ | ⟨rfl, rfl⟩
      · exact .inl (mkAnd_isAnd h)
      · -- the original body is not a conjunction: otherwise presplit would have returned it unchanged
        refine .inr ?_
        cases hphi : phi.isConj with
        | false => simp [indivisible, hphi]
        | true => rw [presplit_isConj hphi' hphi] at hc; cases hc
      · exact .inr rfl

theorem splitLoop_indivisible : ∀ (f : Nat) (stack acc ps : List Expr), splitLoop f stack acc = .ok ps →
    (∀ p ∈ acc, indivisible p = true) → ∀ p ∈ ps, indivisible p = true := by
  intro f
  induction f with
  | zero => intro stack acc ps h; cases h
  | succ f ih =>
    intro stack acc ps h hacc
    rcases splitLoop_succ h with ⟨rfl, ⟨⟩⟩ | ⟨e, rest, rfl, ⟨_, h⟩ | ⟨_, ⟨⟩⟩ | ⟨_, _, ⟨⟩⟩ | ⟨e', he', ⟨t, a, b, rfl, h⟩ | ⟨hna, h⟩⟩⟩
    · exact hacc
    · exact ih rest acc ps h hacc
    · exact ih _ acc ps h hacc
    · refine ih rest (acc ++ [e']) ps h fun p hp => ?_
      rcases List.mem_append.1 hp with hp | hp
      · exact hacc p hp
      · cases List.mem_singleton.1 hp
        exact ((presplit_shape _).1 e _ he').resolve_left (by rw [hna]; exact Bool.noConfusion)

/-- **C09 (shape)**: none of the returned expressions is a conjunction, a negated disjunction, a negated implication,
    a double negation, a negated existential quantifier or a universal quantifier over a conjunction -/
theorem splitAnd_indivisible (e : Expr) (ps : List Expr) (h : splitAnd e = .ok ps) : ∀ p ∈ ps, indivisible p = true :=
  splitLoop_indivisible _ [e] [] ps h (by simp)

/-- **C09 (ValueError)**, the semantic half: the conjunct for which `split_and` raises is false under every valuation -/
theorem isFalseLit_truth (ρ : Env) (opq : Opaque) (e : Expr) (h : isFalseLit e = true) : truth opq ρ e = some false := by
  unfold isFalseLit at h
  split at h
  · rfl
  · cases h

def sB : Expr := .field T.BOOL (.this T.MESSAGE) "b"
def sC : Expr := .field T.BOOL (.this T.MESSAGE) "c"
-- non-vacuity: `not (b or c)` and `forall i in xs: (@i > 0 and b)` are split
example : (splitAnd (.un T.BOOL "not" (.bin T.BOOL "or" sB sC))).toOption.map List.length = some 2 := by rfl
example : (splitAnd (.quant T.BOOL .all "i" (.field T.ARRAY (.this T.MESSAGE) "xs") (.bin T.BOOL "and" (.bin T.BOOL ">" (.var T.NUMBER "i") (.lit T.NUMBER "0" (.int 0))) sB))).toOption.map List.length = some 2 := by rfl

end Hpl
