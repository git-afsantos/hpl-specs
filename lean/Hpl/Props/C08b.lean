import Hpl.Props.C08a
/-!
# C08 — the logical rule functions of `simplify`, and the operand flips

Conjunction and disjunction at the level of truth values (errors collapsed): `getJuncts` flattens nested applications of the
operator with an explicit stack (the fuel of the model is shown sufficient), `dedupe` drops repeated operands, `chain` rebuilds
a nested application; the strict junction of the operands is unchanged by each step.  Then, at the level of values: the flips of
`_pre_simplify_binop`, and the rules for negation, negative numbers and implication.
-/
namespace Hpl
section
variable (opq : Opaque)

def opOf (isAnd : Bool) : String := if isAnd then Gen.AND_OPERATOR else Gen.OR_OPERATOR
def fOf (isAnd : Bool) : Bool → Bool → Bool := if isAnd then (· && ·) else (· || ·)

theorem fOf_comm (isAnd a b : Bool) : fOf isAnd a b = fOf isAnd b a := by cases isAnd <;> cases a <;> cases b <;> rfl
theorem fOf_assoc (isAnd a b c : Bool) : fOf isAnd (fOf isAnd a b) c = fOf isAnd a (fOf isAnd b c) := by
  cases isAnd <;> cases a <;> cases b <;> cases c <;> rfl
theorem fOf_idem (isAnd a : Bool) : fOf isAnd a a = a := by cases isAnd <;> cases a <;> rfl
theorem fOf_unit (isAnd a : Bool) : fOf isAnd a isAnd = a := by cases isAnd <;> cases a <;> rfl
theorem fOf_zero_left (isAnd b : Bool) : fOf isAnd (!isAnd) b = !isAnd := by cases isAnd <;> cases b <;> rfl
theorem fOf_compl (isAnd b : Bool) : fOf isAnd (!b) b = !isAnd := by cases isAnd <;> cases b <;> rfl

/-- strict junction of two truth values: undefined as soon as one of them is -/
def jn (isAnd : Bool) (x y : Option Bool) : Option Bool := do let a ← x; let b ← y; pure (fOf isAnd a b)

theorem jn_comm (isAnd : Bool) (x y : Option Bool) : jn isAnd x y = jn isAnd y x := by
  cases x <;> cases y <;> first | rfl | exact congrArg some (fOf_comm ..)
theorem jn_assoc (isAnd : Bool) (x y z : Option Bool) : jn isAnd (jn isAnd x y) z = jn isAnd x (jn isAnd y z) := by
  cases x <;> cases y <;> cases z <;> first | rfl | exact congrArg some (fOf_assoc ..)
theorem jn_left_comm (isAnd : Bool) (x y z : Option Bool) : jn isAnd x (jn isAnd y z) = jn isAnd y (jn isAnd x z) := by
  rw [← jn_assoc, jn_comm isAnd x y, jn_assoc]
theorem jn_unit (isAnd : Bool) (x : Option Bool) : jn isAnd x (some isAnd) = x := by
  cases x <;> first | rfl | exact congrArg some (fOf_unit ..)
theorem jn_idem (isAnd : Bool) (x : Option Bool) : jn isAnd x x = x := by
  cases x <;> first | rfl | exact congrArg some (fOf_idem ..)

/-- strict junction of a list of formulas under `op` (`and`: all, `or`: any) -/
def juncT (isAnd : Bool) (ρ : Env) (l : List Expr) : Option Bool :=
  if isAnd then allO l (truth opq ρ) else anyO l (truth opq ρ)

theorem juncT_nil (isAnd : Bool) (ρ : Env) : juncT opq isAnd ρ [] = some isAnd := by cases isAnd <;> rfl

theorem juncT_cons (isAnd : Bool) (ρ : Env) (e : Expr) (l : List Expr) :
    juncT opq isAnd ρ (e :: l) = jn isAnd (truth opq ρ e) (juncT opq isAnd ρ l) := by
  cases isAnd
  · exact anyO_cons e l _
  · exact allO_cons e l _

theorem juncT_append (isAnd : Bool) (ρ : Env) (l1 l2 : List Expr) :
    juncT opq isAnd ρ (l1 ++ l2) = jn isAnd (juncT opq isAnd ρ l1) (juncT opq isAnd ρ l2) := by
  induction l1 with
  | nil => rw [List.nil_append, juncT_nil, jn_comm, jn_unit]
  | cons e l1 ih => rw [List.cons_append, juncT_cons, ih, juncT_cons, jn_assoc]

theorem truth_op (isAnd : Bool) (ρ : Env) (t : DataType) (p q : Expr) :
    truth opq ρ (.bin t (opOf isAnd) p q) = jn isAnd (truth opq ρ p) (truth opq ρ q) := by
  cases isAnd
  · exact truth_or opq ρ t p q
  · exact truth_and opq ρ t p q

/-! ## flattening -/

def sizeSum : List Expr → Nat
  | [] => 0
  | e :: l => e.size + sizeSum l

/-- with enough fuel the work-list loop returns the junction of what was accumulated and what was pending -/
theorem flattenOp_sem (isAnd : Bool) (ρ : Env) : ∀ (f : Nat) (stack acc : List Expr), sizeSum stack < f →
    juncT opq isAnd ρ (flattenOp (opOf isAnd) f stack acc) = jn isAnd (juncT opq isAnd ρ acc) (juncT opq isAnd ρ stack)
  | 0, _, _, h => by omega
  | f+1, [], acc, _ => by
      show juncT opq isAnd ρ acc = _
      rw [juncT_nil, jn_unit]
  | f+1, e :: stack, acc, h => by
      have hpos := Expr.size_pos e
      rw [sizeSum] at h
      have leaf : juncT opq isAnd ρ (flattenOp (opOf isAnd) f stack (acc ++ [e])) =
          jn isAnd (juncT opq isAnd ρ acc) (juncT opq isAnd ρ (e :: stack)) := by
        rw [flattenOp_sem isAnd ρ f stack (acc ++ [e]) (by omega), juncT_append, juncT_cons, juncT_cons, juncT_nil, jn_unit, jn_assoc]
      cases e with
      | bin t o a b =>
        rw [flattenOp]
        by_cases ho : (o == opOf isAnd) = true
        · rw [if_pos ho]
          cases eq_of_beq ho
          rw [flattenOp_sem isAnd ρ f (b :: a :: stack) acc (by simp only [sizeSum, Expr.size] at h ⊢; omega),
            juncT_cons, juncT_cons, juncT_cons, truth_op, jn_assoc, jn_left_comm isAnd (truth opq ρ b)]
        · rw [if_neg ho]
          exact leaf
      | _ => exact leaf

theorem getJuncts_sem (isAnd : Bool) (ρ : Env) (e : Expr) : juncT opq isAnd ρ (getJuncts (opOf isAnd) e) = truth opq ρ e := by
  unfold getJuncts
  rw [flattenOp_sem opq isAnd ρ _ [e] [] (by simp only [sizeSum]; omega), juncT_nil, juncT_cons, juncT_nil, jn_unit, jn_comm, jn_unit]

/-! ## de-duplication -/

/-- under an occurrence of `a`, further occurrences of `a` do not matter -/
theorem juncT_filter (isAnd : Bool) (ρ : Env) (a : Expr) : ∀ (l : List Expr),
    jn isAnd (truth opq ρ a) (juncT opq isAnd ρ l) = jn isAnd (truth opq ρ a) (juncT opq isAnd ρ (l.filter (fun b => !b == a)))
  | [] => rfl
  | b :: l => by
      have ih := juncT_filter isAnd ρ a l
      by_cases hb : (b == a) = true
      · cases eq_of_beq hb
        rw [List.filter_cons_of_neg (by rw [hb]; decide), juncT_cons, ← jn_assoc, jn_idem, ih]
      · rw [List.filter_cons_of_pos (by rw [Bool.not_eq_true] at hb; rw [hb]; rfl), juncT_cons, juncT_cons,
          jn_left_comm, ih, jn_left_comm]

theorem juncT_eraseDups (isAnd : Bool) (ρ : Env) : ∀ (n : Nat) (l : List Expr), l.length ≤ n →
    juncT opq isAnd ρ l.eraseDups = juncT opq isAnd ρ l
  | _, [], _ => rfl
  | 0, _ :: _, h => by simp at h
  | n+1, a :: l, h => by
      rw [List.eraseDups_cons, juncT_cons, juncT_cons]
      have hlen : (l.filter (fun b => !b == a)).length ≤ n := Nat.le_trans (List.length_filter_le _ _) (by simpa using h)
      rw [juncT_eraseDups isAnd ρ n _ hlen]
      exact (juncT_filter opq isAnd ρ a l).symm

theorem dedupe_sem (isAnd : Bool) (ρ : Env) (l : List Expr) : juncT opq isAnd ρ (dedupe l) = juncT opq isAnd ρ l :=
  juncT_eraseDups opq isAnd ρ l.length l (Nat.le_refl _)

theorem dedupe_head (l : List Expr) (d : Expr) : (dedupe l).headD d = l.headD d := by
  cases l with
  | nil => rfl
  | cons a l => simp [dedupe, List.eraseDups_cons]

/-! ## re-building the chain -/

def mkOf (isAnd : Bool) : Expr → Expr → M Expr := if isAnd then mkAnd else mkOr

theorem mkOf_truth (isAnd : Bool) {a b e : Expr} (h : mkOf isAnd a b = .ok e) (ρ : Env) :
    truth opq ρ e = jn isAnd (truth opq ρ a) (truth opq ρ b) := by
  have hm : mkBin (opOf isAnd) a b = .ok e := by cases isAnd <;> exact h
  obtain ⟨t, a', b', rfl⟩ := mkBin_shape hm
  rw [← truth_op opq isAnd ρ t a b]
  unfold truth
  rw [mkBin_eval opq hm ρ]
  rfl

theorem foldlM_chain_truth (isAnd : Bool) (ρ : Env) : ∀ (rest : List Expr) (psi r : Expr),
    rest.foldlM (fun acc c => mkOf isAnd c acc) psi = .ok r →
    truth opq ρ r = jn isAnd (truth opq ρ psi) (juncT opq isAnd ρ rest)
  | [], psi, r, h => by
      cases h
      rw [juncT_nil, jn_unit]
  | c :: rest, psi, r, h => by
      rw [List.foldlM_cons] at h
      obtain ⟨psi', hpsi, h⟩ := bind_ok h
      rw [foldlM_chain_truth isAnd ρ rest psi' r h, mkOf_truth opq isAnd hpsi ρ, juncT_cons, jn_comm isAnd (truth opq ρ c), jn_assoc]

theorem chain_truth (isAnd : Bool) (ρ : Env) {u : List Expr} {r : Expr} (h : chain (mkOf isAnd) u = .ok r) :
    truth opq ρ r = juncT opq isAnd ρ u := by
  cases u with
  | nil => cases h
  | cons c0 u1 =>
    cases u1 with
    | nil =>
      cases h
      rw [juncT_cons, juncT_nil, jn_unit]
    | cons c1 rest =>
      obtain ⟨psi, hpsi, h⟩ := bind_ok h
      rw [foldlM_chain_truth opq isAnd ρ rest psi r h, mkOf_truth opq isAnd hpsi ρ, juncT_cons, juncT_cons, jn_assoc]

/-! ## `dedupeJuncts` and the two rule functions: truth level, then value level -/

theorem dedupeJuncts_truth (isAnd : Bool) (t : DataType) (phi p q r : Expr)
    (h : dedupeJuncts (opOf isAnd) (mkOf isAnd) phi p q = .ok r) (ρ : Env) :
    truth opq ρ r = truth opq ρ (.bin t (opOf isAnd) p q) := by
  rw [truth_op, ← getJuncts_sem opq isAnd ρ p, ← getJuncts_sem opq isAnd ρ q, ← juncT_append, ← dedupe_sem]
  rcases ite_eq h with ⟨-, h⟩ | ⟨-, h⟩
  · rcases ite_eq h with ⟨hone, h⟩ | ⟨-, h⟩
    · -- a single distinct operand: it is the head of the flattened list
      cases h
      rw [← dedupe_head]
      match hd : dedupe (getJuncts (opOf isAnd) p ++ getJuncts (opOf isAnd) q), hone with
      | [c], _ => rw [List.headD, juncT_cons, juncT_nil, jn_unit]
    · exact chain_truth opq isAnd ρ h
  · rw [dedupe_sem, juncT_append, getJuncts_sem, getJuncts_sem]
    exact mkOf_truth opq isAnd h ρ

/-- `_simplify_conjunction` and `_simplify_disjunction`: `zero` recognises the annihilating literal (`zlit`), `unit` the neutral one -/
theorem junction_truth (isAnd : Bool) {zero unit : Expr → Bool} {zlit : Expr}
    (hzero : ∀ ρ e, zero e = true → truth opq ρ e = some (!isAnd)) (hunit : ∀ ρ e, unit e = true → truth opq ρ e = some isAnd)
    (hzlit : ∀ ρ, truth opq ρ zlit = some (!isAnd)) (t : DataType) {phi p q r : Expr}
    (h : (if zero p then .ok p else if zero q then .ok q else if unit p then .ok q else if unit q then .ok p
      else if p == q then .ok p else if obviouslyDifferent p q then .ok zlit
      else dedupeJuncts (opOf isAnd) (mkOf isAnd) phi p q) = .ok r) :
    PreservesTruth opq r (.bin t (opOf isAnd) p q) := by
  intro ρ v hv
  rw [truth_op] at hv
  cases hp : truth opq ρ p with
  | none => rw [hp] at hv; cases hv
  | some a =>
    cases hq : truth opq ρ q with
    | none => rw [hp, hq] at hv; cases hv
    | some b =>
      rw [hp, hq] at hv
      cases hv
      rcases ite_eq h with ⟨hc, h⟩ | ⟨-, h⟩
      · cases h
        cases (hzero ρ p hc).symm.trans hp
        rw [hp, fOf_zero_left]
      rcases ite_eq h with ⟨hc, h⟩ | ⟨-, h⟩
      · cases h
        cases (hzero ρ q hc).symm.trans hq
        rw [hq, fOf_comm, fOf_zero_left]
      rcases ite_eq h with ⟨hc, h⟩ | ⟨-, h⟩
      · cases h
        cases (hunit ρ p hc).symm.trans hp
        rw [hq, fOf_comm, fOf_unit]
      rcases ite_eq h with ⟨hc, h⟩ | ⟨-, h⟩
      · cases h
        cases (hunit ρ q hc).symm.trans hq
        rw [hp, fOf_unit]
      rcases ite_eq h with ⟨hc, h⟩ | ⟨-, h⟩
      · cases h
        cases eq_of_beq hc
        cases hp.symm.trans hq
        rw [hp, fOf_idem]
      rcases ite_eq h with ⟨hc, h⟩ | ⟨-, h⟩
      · cases h
        rw [obviouslyDifferent_bool opq p q hc ρ a b hp hq, fOf_compl]
        exact hzlit ρ
      · rw [dedupeJuncts_truth opq isAnd t phi p q r h ρ, truth_op, hp, hq]
        rfl

/-! ## associative-commutative operators: one carrier per operator -/

/-- an operator that, on the values where it is defined, is an associative and commutative operation `g` on a carrier -/
structure ACCarrier (op : String) where
  α : Type
  inj : α → Value
  g : α → α → α
  spec : ∀ x y v, binOp op x y = .ok v ↔ ∃ a b, x = inj a ∧ y = inj b ∧ v = inj (g a b)
  comm : ∀ a b, g a b = g b a
  assoc : ∀ a b c, g (g a b) c = g a (g b c)
  inj_inj : ∀ a b, inj a = inj b → a = b

theorem num_spec {f : Rat → Rat → Rat} {op : String}
    (hop : ∀ a b, binOp op a b = (do let x ← asNum a; let y ← asNum b; pure (Value.num (f x y)))) (x y v : Value) :
    binOp op x y = .ok v ↔ ∃ a b, x = Value.num a ∧ y = Value.num b ∧ v = Value.num (f a b) := by
  constructor
  · exact arith_ok hop
  · rintro ⟨a, b, rfl, rfl, rfl⟩; rw [hop]; rfl

theorem bool_spec {f : Bool → Bool → Bool} {op : String}
    (hop : ∀ a b, binOp op a b = (do let x ← asBool a; let y ← asBool b; pure (Value.bool (f x y)))) (x y v : Value) :
    binOp op x y = .ok v ↔ ∃ a b, x = Value.bool a ∧ y = Value.bool b ∧ v = Value.bool (f a b) := by
  constructor
  · intro h
    rw [hop] at h
    obtain ⟨a, ha, h⟩ := bind_ok h
    obtain ⟨b, hb, h⟩ := bind_ok h
    exact ⟨a, b, asBool_ok.1 ha, asBool_ok.1 hb, (Except.ok.inj h).symm⟩
  · rintro ⟨a, b, rfl, rfl, rfl⟩; rw [hop]; rfl

def acAdd : ACCarrier "+" := ⟨Rat, Value.num, (· + ·), num_spec binOp_add, Rat.add_comm, Rat.add_assoc, num_inj⟩
def acMul : ACCarrier "*" := ⟨Rat, Value.num, (· * ·), num_spec binOp_mul, Rat.mul_comm, Rat.mul_assoc, num_inj⟩
def acAnd : ACCarrier "and" := ⟨Bool, Value.bool, (· && ·), bool_spec binOp_and, Bool.and_comm, Bool.and_assoc, bool_inj⟩
def acOr : ACCarrier "or" := ⟨Bool, Value.bool, (· || ·), bool_spec binOp_or, Bool.or_comm, Bool.or_assoc, bool_inj⟩
def acIff : ACCarrier "iff" := ⟨Bool, Value.bool, (· == ·), bool_spec binOp_iff, fun _ _ => Bool.beq_comm,
  fun a b c => by cases a <;> cases b <;> cases c <;> rfl, bool_inj⟩

theorem acCarrier_of {op : String} (hop : op = "+" ∨ op = "*" ∨ op = "iff" ∨ op = "or" ∨ op = "and") : Nonempty (ACCarrier op) := by
  rcases hop with rfl | rfl | rfl | rfl | rfl
  · exact ⟨acAdd⟩
  · exact ⟨acMul⟩
  · exact ⟨acIff⟩
  · exact ⟨acOr⟩
  · exact ⟨acAnd⟩

/-- evaluation of an application of such an operator, in carrier terms -/
theorem ac_eval {op : String} (C : ACCarrier op) {ρ : Env} {t : DataType} {p q : Expr} {v : Value} :
    eval opq ρ (.bin t op p q) = .ok v ↔ ∃ a b, eval opq ρ p = .ok (C.inj a) ∧ eval opq ρ q = .ok (C.inj b) ∧ v = C.inj (C.g a b) := by
  rw [eval_bin_ok]
  constructor
  · rintro ⟨x, y, hx, hy, h⟩
    obtain ⟨a, b, rfl, rfl, rfl⟩ := (C.spec x y v).1 h
    exact ⟨a, b, hx, hy, rfl⟩
  · rintro ⟨a, b, hx, hy, rfl⟩
    exact ⟨_, _, hx, hy, (C.spec _ _ _).2 ⟨a, b, rfl, rfl, rfl⟩⟩

/-- the value of a term built with the smart constructor from two evaluated operands -/
theorem ac_mk {op : String} (C : ACCarrier op) {ρ : Env} {p q e : Expr} {a b : C.α} (h : mkBin op p q = .ok e)
    (hp : eval opq ρ p = .ok (C.inj a)) (hq : eval opq ρ q = .ok (C.inj b)) : eval opq ρ e = .ok (C.inj (C.g a b)) :=
  mkBin_ok_eval opq h hp hq ((C.spec _ _ _).2 ⟨a, b, rfl, rfl, rfl⟩)

/-- truth-level preservation is value-level preservation when the original is a boolean connective -/
theorem pres_of_truth {op : String} {f : Bool → Bool → Bool}
    (hop : ∀ a b, binOp op a b = (do let x ← asBool a; let y ← asBool b; pure (Value.bool (f x y)))) {t : DataType} {p q r : Expr}
    (h : PreservesTruth opq r (.bin t op p q)) : Pres opq r (.bin t op p q) := by
  intro ρ v hv
  obtain ⟨x, y, -, -, hb⟩ := (eval_bin_ok opq).1 hv
  obtain ⟨a, b, -, -, rfl⟩ := (bool_spec hop x y v).1 hb
  exact (truth_eq_some opq).1 (h ρ _ ((truth_eq_some opq).2 hv))

theorem simpConjunction_sound (t : DataType) (phi p q r : Expr) (h : simpConjunction phi p q = .ok r) :
    Pres opq r (.bin t "and" p q) :=
  pres_of_truth opq binOp_and (junction_truth opq true (fun ρ e => isFalseLit_truth ρ opq e) (isTrueLit_truth opq) (fun _ => rfl) t h)

theorem simpDisjunction_sound (t : DataType) (phi p q r : Expr) (h : simpDisjunction phi p q = .ok r) :
    Pres opq r (.bin t "or" p q) :=
  pres_of_truth opq binOp_or (junction_truth opq false (isTrueLit_truth opq) (fun ρ e => isFalseLit_truth ρ opq e) (fun _ => rfl) t h)

/-! ## congruence: rebuilding an operator around preserved operands -/

theorem pres_mkBin {op : String} {t : DataType} {a b a' b' r : Expr} (ha : Pres opq a' a) (hb : Pres opq b' b)
    (h : mkBin op a' b' = .ok r) : Pres opq r (.bin t op a b) := by
  intro ρ v hv
  obtain ⟨x, y, hx, hy, hop⟩ := (eval_bin_ok opq).1 hv
  exact mkBin_ok_eval opq h (ha ρ x hx) (hb ρ y hy) hop

theorem pres_mkUn {op : String} {t : DataType} {a a' r : Expr} (ha : Pres opq a' a) (h : mkUn op a' = .ok r) :
    Pres opq r (.un t op a) := by
  intro ρ v hv
  obtain ⟨x, hx, hop⟩ := (eval_un_ok opq).1 hv
  exact mkUn_ok_eval opq h (ha ρ x hx) hop

theorem pres_bin_congr {op : String} {t t' : DataType} {a b a' b' : Expr} (ha : Pres opq a' a) (hb : Pres opq b' b) :
    Pres opq (.bin t' op a' b') (.bin t op a b) := by
  intro ρ v hv
  obtain ⟨x, y, hx, hy, hop⟩ := (eval_bin_ok opq).1 hv
  exact (eval_bin_ok opq).2 ⟨x, y, ha ρ x hx, hb ρ y hy, hop⟩

/-! ## the flip of `_pre_simplify_binop`: commutative operators and the inverse table -/

theorem prim_eq_comm (a b : Prim) : Prim.eq a b = Prim.eq b a := by
  cases a with
  | bool _ =>
    cases b with
    | bool _ => exact congrArg Except.ok BEq.comm
    | _ => rfl
  | str _ =>
    cases b with
    | str _ => exact congrArg Except.ok BEq.comm
    | _ => rfl
  | num _ | pinf | ninf =>
    cases b with
    | bool _ | str _ => rfl
    | num _ | pinf | ninf => exact congrArg Except.ok BEq.comm


/-- the operators flagged commutative (table G2) are commutative where they are defined -/
theorem binOp_comm_ok {op : String} (hop : op = "+" ∨ op = "*" ∨ op = "iff" ∨ op = "or" ∨ op = "and" ∨ op = "=" ∨ op = "!=")
    {x y v : Value} (h : binOp op x y = .ok v) : binOp op y x = .ok v := by
  have ac : ACCarrier op → binOp op y x = .ok v := fun C => by
    obtain ⟨a, b, rfl, rfl, rfl⟩ := (C.spec x y v).1 h
    exact (C.spec _ _ _).2 ⟨b, a, rfl, rfl, by rw [C.comm]⟩
  have eq : ∀ (F : Bool → Bool), (∀ a b, binOp op a b = (do let x ← asPrim a; let y ← asPrim b; let r ← Prim.eq x y; pure (Value.bool (F r)))) →
      binOp op y x = .ok v := fun F hF => by
    rw [hF] at h ⊢
    obtain ⟨a, ha, h⟩ := bind_ok h
    obtain ⟨b, hb, h⟩ := bind_ok h
    rw [ha, hb]
    show (do let r ← Prim.eq b a; pure (Value.bool (F r))) = .ok v
    rw [prim_eq_comm b a]
    exact h
  rcases hop with rfl | rfl | rfl | rfl | rfl | rfl | rfl
  · exact ac acAdd
  · exact ac acMul
  · exact ac acIff
  · exact ac acOr
  · exact ac acAnd
  · exact eq id binOp_eq
  · exact eq (!·) binOp_ne

/-- the inverse table (G4) for the order comparisons: `a < b` is `b > a`, `a <= b` is `b >= a` -/
theorem binOp_inverse_ok {op inv : String} (hop : (op, inv) = ("<", ">") ∨ (op, inv) = (">", "<") ∨ (op, inv) = ("<=", ">=") ∨ (op, inv) = (">=", "<="))
    {x y v : Value} (h : binOp op x y = .ok v) : binOp inv y x = .ok v := by
  have key : ∀ (F G : Prim → Prim → EM Value), (∀ a b, F a b = G b a) →
      (do let a ← asPrim x; let b ← asPrim y; F a b) = .ok v → (do let a ← asPrim y; let b ← asPrim x; G a b) = .ok v := by
    intro F G hFG hF
    obtain ⟨a, ha, hF⟩ := bind_ok hF
    obtain ⟨b, hb, hF⟩ := bind_ok hF
    rw [hb, ha]
    exact (hFG a b).symm.trans hF
  rcases hop with hh | hh | hh | hh <;> cases hh
  · rw [binOp_lt] at h; rw [binOp_gt]; exact key _ _ (fun a b => rfl) h
  · rw [binOp_gt] at h; rw [binOp_lt]; exact key _ _ (fun a b => rfl) h
  · rw [binOp_le] at h; rw [binOp_ge]; exact key _ _ (fun a b => rfl) h
  · rw [binOp_ge] at h; rw [binOp_le]; exact key _ _ (fun a b => rfl) h

/-- swapping the operands of a commutative operator, or swapping them under the inverse comparison, preserves the value -/
theorem pres_flip_comm {op : String} (hop : op = "+" ∨ op = "*" ∨ op = "iff" ∨ op = "or" ∨ op = "and" ∨ op = "=" ∨ op = "!=")
    {t : DataType} {a b a' b' r : Expr} (ha : Pres opq a' a) (hb : Pres opq b' b) (h : mkBin op b' a' = .ok r) :
    Pres opq r (.bin t op a b) := by
  intro ρ v hv
  obtain ⟨x, y, hx, hy, hbin⟩ := (eval_bin_ok opq).1 hv
  exact mkBin_ok_eval opq h (hb ρ y hy) (ha ρ x hx) (binOp_comm_ok hop hbin)

theorem pres_flip_inverse {op inv : String} (hop : (op, inv) = ("<", ">") ∨ (op, inv) = (">", "<") ∨ (op, inv) = ("<=", ">=") ∨ (op, inv) = (">=", "<="))
    {t : DataType} {a b a' b' r : Expr} (ha : Pres opq a' a) (hb : Pres opq b' b) (h : mkBin inv b' a' = .ok r) :
    Pres opq r (.bin t op a b) := by
  intro ρ v hv
  obtain ⟨x, y, hx, hy, hbin⟩ := (eval_bin_ok opq).1 hv
  exact mkBin_ok_eval opq h (hb ρ y hy) (ha ρ x hx) (binOp_inverse_ok hop hbin)

/-! ## negation, negative numbers, implication, equivalence -/

/-- `_simplify_negation` on the simplified operand -/
theorem negationRule_pres {t : DataType} {a p r : Expr} (h : negationRule p = .ok r) (hp : Pres opq p a) :
    Pres opq r (.un t Gen.NOT_OPERATOR a) := by
  intro ρ v hv
  obtain ⟨x, hx, hop⟩ := (eval_un_ok opq).1 hv
  obtain ⟨c, rfl, rfl⟩ := not_ok hop
  have hpx := hp ρ _ hx
  have htp : truth opq ρ p = some c := (truth_eq_some opq).2 hpx
  have viaNot : ∀ r, mkNot p = .ok r → eval opq ρ r = .ok (Value.bool !c) := fun r hr =>
    mkUn_ok_eval opq hr hpx (by rw [show Gen.NOT_OPERATOR = "not" from rfl, unOp_not]; rfl)
  rcases ite_eq h with ⟨ht, h⟩ | ⟨-, h⟩
  · cases h
    cases (isTrueLit_truth opq ρ p ht).symm.trans htp
    rfl
  rcases ite_eq h with ⟨hf, h⟩ | ⟨-, h⟩
  · cases h
    cases (isFalseLit_truth ρ opq p hf).symm.trans htp
    rfl
  cases p with
  | un t2 op2 x2 =>
    rcases ite_eq h with ⟨hn, h⟩ | ⟨-, h⟩
    · cases h
      cases eq_of_beq hn
      obtain ⟨xv, hxv, hu⟩ := (eval_un_ok opq).1 hpx
      obtain ⟨d, rfl, hd⟩ := not_ok hu
      cases bool_inj _ _ hd
      rw [hxv, Bool.not_not]
    · exact viaNot r h
  | _ => exact viaNot r h

theorem negationRule_sound {t : DataType} {a p r : Expr}
    (h : (if isTrueLit p then pure falseLit
      else if isFalseLit p then pure trueLit
      else match p with
        | .un _ op2 x => if op2 == Gen.NOT_OPERATOR then pure x else mkNot p
        | _ => mkNot p : M Expr) = .ok r) (hp : Pres opq p a) : Pres opq r (.un t Gen.NOT_OPERATOR a) :=
  negationRule_pres opq h hp

/-! ## implication and equivalence: the rewrites applied before re-entering the simplifier -/

theorem truth_iff (ρ : Env) (t : DataType) (p q : Expr) :
    truth opq ρ (.bin t Gen.IFF_OPERATOR p q) = (do let a ← truth opq ρ p; let b ← truth opq ρ q; pure (a == b)) :=
  truth_boolOp opq boolOp_iff ρ t p q

/-- `a implies a` is `True`; otherwise `a implies b` is rewritten to `(not a) or b` -/
theorem impliesRule_sound {t : DataType} {a b r : Expr}
    (h : (if a == b then pure trueLit else do let na ← mkNot a; mkOr na b : M Expr) = .ok r) : Pres opq r (.bin t "implies" a b) := by
  apply pres_of_truth opq binOp_implies
  intro ρ v hv
  rw [show ("implies" : String) = Gen.IMPLIES_OPERATOR from rfl, truth_implies] at hv
  rcases ite_eq h with ⟨heq, h⟩ | ⟨-, h⟩
  · cases h
    cases eq_of_beq heq
    cases ha : truth opq ρ a with
    | none => rw [ha] at hv; cases hv
    | some x => rw [ha] at hv; cases hv; cases x <;> rfl
  · obtain ⟨na, hna, h⟩ := bind_ok h
    have hnot : truth opq ρ na = (truth opq ρ a).map (!·) := by
      rw [← truth_not opq ρ T.BOOL a]
      unfold truth
      rw [mkUn_eval opq hna ρ]
      rfl
    rw [mkOf_truth opq false h ρ, hnot]
    cases ha : truth opq ρ a with
    | none => rw [ha] at hv; cases hv
    | some x =>
      cases hb : truth opq ρ b with
      | none => rw [ha, hb] at hv; cases hv
      | some y => rw [ha, hb] at hv; exact hv

/-- `_simplify_negative_number` on the simplified operand -/
theorem negNumberRule_pres {t : DataType} {a a' r : Expr} (h : negNumberRule a' = .ok r) (hp : Pres opq a' a) :
    Pres opq r (.un t "-" a) := by
  intro ρ v hv
  obtain ⟨x, hx, hop⟩ := (eval_un_ok opq).1 hv
  obtain ⟨q, rfl, rfl⟩ := neg_ok hop
  have hpx := hp ρ _ hx
  have viaMinus : ∀ r, mkMinus a' = .ok r → eval opq ρ r = .ok (Value.num (-q)) := fun r hr => mkUn_ok_eval opq hr hpx (unOp_neg_num q)
  unfold negNumberRule at h
  cases hl : numLit? a' with
  | some lv =>
    rw [hl] at h
    obtain ⟨n, hneg, h⟩ := bind_ok h
    rw [litNumber_eval opq h ρ]
    obtain ⟨ta, ka, rfl⟩ := numLit_some hl
    rcases litValue_num hpx with ⟨rfl, hd⟩ | rfl
    · cases hneg
      have hq : (q.num : Rat) = q := Rat.ext (by simp) (by simp [hd])
      rw [← hq]
      exact congrArg (fun x => Except.ok (Value.num x)) (Rat.intCast_neg q.num)
    · cases hneg
      rfl
  | none =>
    rw [hl] at h
    cases a' with
    | un t2 op2 x2 =>
      rcases ite_eq h with ⟨hm, h⟩ | ⟨-, h⟩
      · cases h
        cases eq_of_beq hm
        obtain ⟨xv, hxv, hu⟩ := (eval_un_ok opq).1 hpx
        obtain ⟨q2, rfl, hq⟩ := neg_ok hu
        cases num_inj _ _ hq
        rw [hxv, Rat.neg_neg]
      · exact viaMinus r h
    | _ => exact viaMinus r h

theorem negNumberRule_sound {t : DataType} {a a' r : Expr}
    (h : (match numLit? a' with
      | some v => do let n ← pyNeg v; litNumber n
      | none =>
        match a' with
        | .un _ op x => if op == "-" then pure x else mkMinus a'
        | _ => mkMinus a' : M Expr) = .ok r) (hp : Pres opq a' a) : Pres opq r (.un t "-" a) :=
  negNumberRule_pres opq h hp

end
end Hpl
