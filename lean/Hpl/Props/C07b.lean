import Hpl.Props.C07
import Hpl.Props.C02
import Hpl.Lemmas.QuantOK
import Hpl.Props.C03e
/-!
# C07, property level — building a property or a file from a well-formed parse fails only with documented classes

The remaining internal outcomes of the model (`assert len(children) >= 2` of the disjunction callback, the `KeyError` of
`set.remove` in the quantifier's `external_references`) are shown unreachable from what the grammar produces:
a disjunction is written with at least two alternatives and an alias is a non-empty name (`RawProperty.WF`).
-/
namespace Hpl

theorem mkPred_err {e : Expr} {x : Err} (h : mkPred e = .error x) : x = .type := by
  unfold mkPred at h
  rcases bind_err h with h1 | ⟨_, _, h⟩
  · exact castE_error h1
  · split at h
    · cases h
    · cases h; rfl

theorem ite_ok_err {α : Type} {c : Prop} [Decidable c] {a : α} {k : M α} {x : Err} (h : (if c then .ok a else k) = .error x) :
    k = .error x := by
  replace h := ite_eq h
  rcases h with ⟨-, h⟩ | ⟨-, h⟩
  · cases h
  · exact h

mutual
/-- `replace` re-enters the constructors of the changed parents: it fails only as they do -/
theorem substE_err (test : Expr → Bool) (other : Expr) : ∀ (e : Expr) (x : Err), substE test other e = .error x → Doc3 x
  | .lit .., x, h | .this .., x, h | .var .., x, h => by cases h
  | .set t vs, x, h => bind_err_class Doc3 (substL_err test other vs x) (fun _ h =>
      bind_err_class Doc3 (fun h => .inl (castList_error h)) (fun _ h => by cases h) (ite_ok_err h)) (ite_ok_err h)
  | .range t lo hi a b, x, h => bind_err_class Doc3 (substE_err test other lo x) (fun _ h =>
      bind_err_class Doc3 (substE_err test other hi x) (fun _ h =>
        bind_err_class Doc3 (fun h => .inl (castE_error h)) (fun _ h =>
          bind_err_class Doc3 (fun h => .inl (castE_error h)) (fun _ h => by cases h) h) (ite_ok_err h)) h) (ite_ok_err h)
  | .quant t q y d b, x, h => bind_err_class Doc3 (substE_err test other d x) (fun _ h =>
      bind_err_class Doc3 (substE_err test other b x) (fun _ h => .of_type_sanity (mkQuant_err (ite_ok_err h))) h) (ite_ok_err h)
  | .un t op a, x, h => bind_err_class Doc3 (substE_err test other a x) (fun _ h => .of_error (mkUn_error (ite_ok_err h))) (ite_ok_err h)
  | .bin t op a b, x, h => bind_err_class Doc3 (substE_err test other a x) (fun _ h =>
      bind_err_class Doc3 (substE_err test other b x) (fun _ h => .of_error (mkBin_error (ite_ok_err h))) h) (ite_ok_err h)
  | .call t f as, x, h => bind_err_class Doc3 (substL_err test other as x) (fun _ h => .of_error (mkCall_error (ite_ok_err h))) (ite_ok_err h)
  | .field t m n, x, h => bind_err_class Doc3 (substE_err test other m x) (fun _ h => .inl (mkFieldT_error (ite_ok_err h))) (ite_ok_err h)
  | .index t a i, x, h => bind_err_class Doc3 (substE_err test other a x) (fun _ h =>
      bind_err_class Doc3 (substE_err test other i x) (fun _ h => .inl (mkIndexT_error (ite_ok_err h))) h) (ite_ok_err h)
theorem substL_err (test : Expr → Bool) (other : Expr) : ∀ (es : ExprList) (x : Err), substL test other es = .error x → Doc3 x
  | .nil, x, h => by cases h
  | .cons e es, x, h => bind_err_class Doc3 (substE_err test other e x) (fun _ h =>
      bind_err_class Doc3 (substL_err test other es x) (fun _ h => by cases h) h) h
end

mutual
/-- the capture-avoiding variable replacement fails only as the constructors of the changed parents do -/
theorem substV_err (nm : String) (other : Expr) : ∀ (e : Expr) (x : Err), substV nm other e = .error x → Doc3 x
  | .lit .., x, h | .this .., x, h | .var .., x, h => by cases h
  | .set t vs, x, h => bind_err_class Doc3 (substVL_err nm other vs x) (fun _ h =>
      bind_err_class Doc3 (fun h => .inl (castList_error h)) (fun _ h => by cases h) (ite_ok_err h)) h
  | .range t lo hi a b, x, h => bind_err_class Doc3 (substV_err nm other lo x) (fun _ h =>
      bind_err_class Doc3 (substV_err nm other hi x) (fun _ h =>
        bind_err_class Doc3 (fun h => .inl (castE_error h)) (fun _ h =>
          bind_err_class Doc3 (fun h => .inl (castE_error h)) (fun _ h => by cases h) h) (ite_ok_err h)) h) h
  | .quant t q y d b, x, h => bind_err_class Doc3 (substV_err nm other d x) (fun _ h =>
      bind_err_class Doc3 (substV_err nm other b x) (fun _ h => .of_type_sanity (mkQuant_err (ite_ok_err h))) h) (ite_ok_err h)
  | .un t op a, x, h => bind_err_class Doc3 (substV_err nm other a x) (fun _ h => .of_error (mkUn_error (ite_ok_err h))) h
  | .bin t op a b, x, h => bind_err_class Doc3 (substV_err nm other a x) (fun _ h =>
      bind_err_class Doc3 (substV_err nm other b x) (fun _ h => .of_error (mkBin_error (ite_ok_err h))) h) h
  | .call t f as, x, h => bind_err_class Doc3 (substVL_err nm other as x) (fun _ h => .of_error (mkCall_error (ite_ok_err h))) h
  | .field t m n, x, h => bind_err_class Doc3 (substV_err nm other m x) (fun _ h => .inl (mkFieldT_error (ite_ok_err h))) h
  | .index t a i, x, h => bind_err_class Doc3 (substV_err nm other a x) (fun _ h =>
      bind_err_class Doc3 (substV_err nm other i x) (fun _ h => .inl (mkIndexT_error (ite_ok_err h))) h) h
theorem substVL_err (nm : String) (other : Expr) : ∀ (es : ExprList) (x : Err), substVL nm other es = .error x → Doc3 x
  | .nil, x, h => by cases h
  | .cons e es, x, h => bind_err_class Doc3 (substV_err nm other e x) (fun _ h =>
      bind_err_class Doc3 (substVL_err nm other es x) (fun _ h => by cases h) h) h
end

theorem Pred.replaceVar_err {p : Pred} {a : String} {other : Expr} {x : Err} (h : p.replaceVar a other = .error x) : Doc3 x := by
  unfold Pred.replaceVar at h
  cases p with
  | expr e =>
    simp only at h
    rcases bind_err h with h1 | ⟨e', _, h⟩
    · exact substV_err _ _ e x h1
    · split at h
      · cases h
      · exact Or.inl (mkPred_err h)
  | vtrue => cases h
  | vfalse => cases h

theorem mkSimpleEvent_err {n : String} {a : Option String} {p : Pred} {x : Err} (h : mkSimpleEvent n a p = .error x) : Doc3 x := by
  unfold mkSimpleEvent at h
  cases a with
  | none => cases h
  | some al =>
    simp only at h
    split at h
    · rcases bind_err h with h1 | ⟨_, _, h⟩
      · exact Pred.replaceVar_err h1
      · cases h
    · cases h

/-- **C07**: the event callback fails only with a type, sanity or value error -/
theorem buildSimple_err {s : RawSimple} {x : Err} (h : buildSimple s = .error x) : Doc3 x := by
  unfold buildSimple at h
  rcases bind_err h with h1 | ⟨p, _, h⟩
  · cases hp : s.pred with
    | none => rw [hp] at h1; cases h1
    | some r =>
      rw [hp] at h1
      simp only at h1
      rcases bind_err h1 with h2 | ⟨e, he, h1⟩
      · exact build_err_documented r x h2
      · exact Or.inl (predFromExpr_err_documented e (build_WT r e he) x h1)
  · exact mkSimpleEvent_err h

theorem mapM_err {α β : Type} {f : α → M β} : ∀ {l : List α} {x : Err}, l.mapM f = .error x → ∃ a ∈ l, f a = .error x
  | [], x, h => by simp [List.mapM_nil, pure, Except.pure] at h
  | a :: l, x, h => by
      rw [List.mapM_cons] at h
      rcases bind_err h with h1 | ⟨_, _, h⟩
      · exact ⟨a, List.mem_cons_self, h1⟩
      · rcases bind_err h with h2 | ⟨_, _, h⟩
        · obtain ⟨b, hb, hf⟩ := mapM_err h2
          exact ⟨b, List.mem_cons_of_mem _ hb, hf⟩
        · cases h

theorem nestDisj_err : ∀ {evs : List Event} {x : Err}, evs ≠ [] → nestDisj evs = .error x → x = .sanity
  | [], _, hne, _ => absurd rfl hne
  | [e], x, _, h => by simp [nestDisj] at h
  | [a, b], x, _, h => by simp only [nestDisj] at h; exact mkDisj_err a b x h
  | a :: b :: c :: rest, x, _, h => by
      simp only [nestDisj] at h
      rcases bind_err h with h1 | ⟨r, _, h⟩
      · exact nestDisj_err (by simp) h1
      · exact mkDisj_err a r x h

theorem mapM_ok_length {α β : Type} {f : α → M β} : ∀ {l : List α} {r : List β}, l.mapM f = .ok r → r.length = l.length
  | [], r, h => by simp [List.mapM_nil, pure, Except.pure] at h; subst h; rfl
  | a :: l, r, h => by
      rw [List.mapM_cons] at h
      obtain ⟨b, _, h⟩ := bind_ok h
      obtain ⟨bs, hbs, h⟩ := bind_ok h
      cases h
      simp [mapM_ok_length hbs]

/-- a written event: a disjunction lists at least two alternatives -/
def RawEvent.WF : RawEvent → Prop
  | .simple _ => True
  | .disj alts => 2 ≤ alts.length

theorem buildEvent_err {ev : RawEvent} {x : Err} (hw : ev.WF) (h : buildEvent ev = .error x) : Doc3 x := by
  cases ev with
  | simple s => exact buildSimple_err h
  | disj alts =>
    simp only [buildEvent] at h
    rcases bind_err h with h1 | ⟨evs, hevs, h⟩
    · obtain ⟨_, _, h1⟩ := mapM_err h1
      exact buildSimple_err h1
    · have hlen := mapM_ok_length hevs
      have h2 : ¬ evs.length < 2 := by rw [hlen]; exact Nat.not_lt.mpr hw
      simp only [h2, ↓reduceIte] at h
      exact Or.inr (Or.inl (nestDisj_err (by intro he; rw [he] at h2; simp at h2) h))

theorem buildOptEvent_err {ev : Option RawEvent} {x : Err} (hw : ∀ e, ev = some e → e.WF) (h : buildOptEvent ev = .error x) : Doc3 x := by
  cases ev with
  | none => cases h
  | some e =>
    simp only [buildOptEvent] at h
    rcases bind_err h with h1 | ⟨_, _, h⟩
    · exact buildEvent_err (hw e rfl) h1
    · cases h


/-! ## the events the callbacks build satisfy the invariant the sanity check relies on -/

def RawSimple.aliasOK (s : RawSimple) : Prop := ∀ a, s.alias = some a → a ≠ ""

def RawEvent.aliasesOK : RawEvent → Prop
  | .simple s => s.aliasOK
  | .disj alts => ∀ s ∈ alts, s.aliasOK

theorem mapM_buildSimple_EvOK {alts : List RawSimple} {evs : List Event} (h : alts.mapM buildSimple = .ok evs)
    (ha : ∀ s ∈ alts, s.aliasOK) : ∀ e ∈ evs, EvOK e :=
  fun e he => let ⟨s, hs, h⟩ := mapM_mem h e he; buildSimple_EvOK h (ha s hs)

theorem EvOK_disj {a b : Event} (ha : EvOK a) (hb : EvOK b) : EvOK (.disj a b) := by
  refine ⟨⟨ha.1, hb.1⟩, ?_⟩
  intro x hx
  simp only [Event.aliases, List.mem_append] at hx
  rcases hx with hx | hx
  · exact ha.2 x hx
  · exact hb.2 x hx

theorem nestDisj_EvOK : ∀ {evs : List Event} {e : Event}, nestDisj evs = .ok e → (∀ x ∈ evs, EvOK x) → EvOK e
  | [], e, h, _ => by simp [nestDisj] at h
  | [a], e, h, hall => by simp only [nestDisj] at h; cases h; exact hall a (by simp)
  | [a, b], e, h, hall => by
      simp only [nestDisj] at h
      obtain ⟨_, rfl⟩ := (mkDisj_ok_iff a b e).1 h
      exact EvOK_disj (hall a (by simp)) (hall b (by simp))
  | a :: b :: c :: rest, e, h, hall => by
      simp only [nestDisj] at h
      obtain ⟨r, hr, h⟩ := bind_ok h
      obtain ⟨_, rfl⟩ := (mkDisj_ok_iff a r e).1 h
      exact EvOK_disj (hall a (by simp)) (nestDisj_EvOK hr (fun x hx => hall x (List.mem_cons_of_mem _ hx)))

theorem buildEvent_EvOK {ev : RawEvent} {e : Event} (h : buildEvent ev = .ok e) (ha : ev.aliasesOK) : EvOK e := by
  cases ev with
  | simple s => exact buildSimple_EvOK h ha
  | disj alts =>
    simp only [buildEvent] at h
    obtain ⟨evs, hevs, h⟩ := bind_ok h
    split at h
    · cases h
    · exact nestDisj_EvOK h (mapM_buildSimple_EvOK hevs ha)

theorem buildOptEvent_EvOK {ev : Option RawEvent} {e : Option Event} (h : buildOptEvent ev = .ok e)
    (ha : ∀ r, ev = some r → r.aliasesOK) : ∀ x, e = some x → EvOK x := by
  cases ev with
  | none => simp only [buildOptEvent] at h; cases h; intro x hx; cases hx
  | some r =>
    simp only [buildOptEvent] at h
    obtain ⟨e', he', h⟩ := bind_ok h
    cases h
    intro x hx; cases hx
    exact buildEvent_EvOK he' (ha r rfl)

/-- what the grammar guarantees of a property as written: disjunctions of at least two alternatives, non-empty aliases -/
def RawProperty.WF (r : RawProperty) : Prop :=
  r.behaviour.WF ∧ r.behaviour.aliasesOK ∧
  (∀ e, r.activator = some e → e.WF ∧ e.aliasesOK) ∧
  (∀ e, r.terminator = some e → e.WF ∧ e.aliasesOK) ∧
  (∀ e, r.trigger = some e → e.WF ∧ e.aliasesOK)

theorem mkScope_err {k : ScopeKind} {a t : Option Event} {x : Err} (h : mkScope k a t = .error x) : x = .value := by
  unfold mkScope at h
  split at h
  · cases h; rfl
  · split at h <;> cases h; rfl

theorem mkPattern_err {k : PatternKind} {b : Event} {t : Option Event} {mn : Rat} {mx : Option Rat} {x : Err}
    (h : mkPattern k b t mn mx = .error x) : x = .value := by
  rcases ite_eq h with ⟨-, h⟩ | ⟨-, h⟩
  · cases h
    rfl
  · rcases ite_eq h with ⟨-, h⟩ | ⟨-, h⟩
    · cases h
      rfl
    · cases mx with
      | none => cases h
      | some m =>
        rcases ite_eq h with ⟨-, h⟩ | ⟨-, h⟩ <;> cases h
        rfl

/-- **C07**: building a property from what the grammar produces fails only with a documented class
    (syntax: duplicate annotation key; type / sanity / value from the constructors and the sanity check) -/
theorem buildProperty_documented (r : RawProperty) (hw : r.WF) (x : Err) (h : buildProperty r = .error x) : x.documented := by
  obtain ⟨hbw, hba, hact, hterm, htrig⟩ := hw
  unfold buildProperty at h
  rcases bind_err h with h0 | ⟨_, _, h⟩
  · unfold checkMetadata at h0; split at h0 <;> cases h0; trivial
  rcases bind_err h with h1 | ⟨act, hact', h⟩
  · exact (buildOptEvent_err (fun e he => (hact e he).1) h1).documented
  rcases bind_err h with h2 | ⟨term, hterm', h⟩
  · exact (buildOptEvent_err (fun e he => (hterm e he).1) h2).documented
  rcases bind_err h with h3 | ⟨scope, hscope, h⟩
  · rw [mkScope_err h3]; trivial
  rcases bind_err h with h4 | ⟨⟨beh, trig⟩, hbt, h⟩
  · rcases (writtenOrder r.patternKind rfl).1 x h4 with h5 | h5
    · exact (buildEvent_err hbw h5).documented
    · exact (buildOptEvent_err (fun e he => (htrig e he).1) h5).documented
  obtain ⟨hu, hv⟩ := (writtenOrder r.patternKind rfl).2 beh trig hbt
  have hbeh : EvOK beh ∧ ∀ t, trig = some t → EvOK t :=
    ⟨buildEvent_EvOK hu hba, buildOptEvent_EvOK hv (fun e he => (htrig e he).2)⟩
  rcases bind_err h with h7 | ⟨pat, hpat, h⟩
  · rw [mkPattern_err h7]; trivial
  unfold mkProperty at h
  rcases bind_err h with h8 | ⟨_, _, h⟩
  · have hs := mkScope_ok hscope
    obtain ⟨hp, hkt⟩ := mkPattern_ok hpat
    subst hs; subst hp
    have hsok : ScopeOK ⟨r.scopeKind, act, term⟩ :=
      ⟨buildOptEvent_EvOK hact' (fun e he => (hact e he).2), buildOptEvent_EvOK hterm' (fun e he => (hterm e he).2)⟩
    have hpok : PatOK ⟨r.patternKind, beh, trig, 0, r.maxTime.map timeSeconds⟩ := hbeh
    have := sanityCheck_err _ _ hsok hpok hkt x h8
    rw [this]; trivial
  · cases h

/-- **C07**: a specification file fails only with a documented class -/
theorem buildSpec_documented (rs : List RawProperty) (hw : ∀ r ∈ rs, r.WF) (x : Err) (h : buildSpec rs = .error x) : x.documented := by
  unfold buildSpec at h
  split at h
  · cases h; trivial
  · obtain ⟨r, hr, h⟩ := mapM_err h
    exact buildProperty_documented r (hw r hr) x h

end Hpl
