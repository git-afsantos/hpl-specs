import Hpl.Model.Printer
import Hpl.Model.Parser
/-! # C06 — printing a parsed AST and parsing it again gives the same AST: three facts about the printer alone.
    The theorems of the property are in C06b–C06n. -/
namespace Hpl

/-- an event disjunction prints the flat list of its alternatives, whatever its nesting (the grammar only accepts the
    flat form) -/
theorem print_disj_flat (a b c : Event) :
    (Event.disj a (.disj b c)).simpleEvents = (Event.disj (.disj a b) c).simpleEvents := by
  simp [Event.simpleEvents, List.append_assoc]

theorem print_disj_nesting_irrelevant (a b c : Event) :
    (Event.disj a (.disj b c)).print = (Event.disj (.disj a b) c).print := by
  simp [Event.print, print_disj_flat]

/-- a field of the current message prints as the bare field name, a field of anything else with a dot -/
theorem print_own_field (t t' : DataType) (n : String) : (Expr.field t (.this t') n).print = n := by
  simp [Expr.print]

end Hpl
