import Hpl.Props.C03b
/-!
# C03 / C08 / C14 — the simplifier keeps the type of what it simplifies

`simplify_ty`: on a well-typed expression the result of the model of `hpl.rewrite.simplify` has exactly the type set
of the input (operators and calls: the single result type of the table; everything else is returned as it is or re-built
by the same constructor). It is the second half of `simplify_typed` (`Props/C03b`), where the induction is.
-/
namespace Hpl

/-- **the simplifier keeps the type**: on a well-typed expression, the result has exactly the input's type set -/
theorem simplify_ty (e r : Expr) (h : simplifyExpr e = .ok r) (hw : WT e) : r.ty = e.ty := (simplify_typed h hw).ty

end Hpl
