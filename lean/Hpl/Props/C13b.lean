import Hpl.Props.C13
import Hpl.Props.C16
import Hpl.Props.C04
/-!
# C13 — replacing the current message by a variable and back gives the original tree

`Ren A e e1`: `e1` is `e` with every `this` leaf replaced by a variable `@A` (at any type set), everything else identical.
`subst_back`: substituting `@A` by the current message in such an `e1` returns exactly `e`, provided `e` is well typed,
its quantifiers are hygienic and `A` does not occur in it ("the alias is not otherwise used").
-/
namespace Hpl

mutual
def Ren (A : String) : Expr → Expr → Prop
  | .this _, e1 => ∃ ty, e1 = .var ty A
  | e@(.lit ..), e1 => e1 = e
  | e@(.var ..), e1 => e1 = e
  | .set t vs, e1 => ∃ vs1, e1 = .set t vs1 ∧ RenL A vs vs1
  | .range t lo hi a b, e1 => ∃ lo1 hi1, e1 = .range t lo1 hi1 a b ∧ Ren A lo lo1 ∧ Ren A hi hi1
  | .quant t q x d b, e1 => ∃ d1 b1, e1 = .quant t q x d1 b1 ∧ Ren A d d1 ∧ Ren A b b1
  | .un t op a, e1 => ∃ a1, e1 = .un t op a1 ∧ Ren A a a1
  | .bin t op a b, e1 => ∃ a1 b1, e1 = .bin t op a1 b1 ∧ Ren A a a1 ∧ Ren A b b1
  | .call t f as, e1 => ∃ as1, e1 = .call t f as1 ∧ RenL A as as1
  | .field t m n, e1 => ∃ m1, e1 = .field t m1 n ∧ Ren A m m1
  | .index t a i, e1 => ∃ a1 i1, e1 = .index t a1 i1 ∧ Ren A a a1 ∧ Ren A i i1
def RenL (A : String) : ExprList → ExprList → Prop
  | .nil, es1 => es1 = .nil
  | .cons e es, es1 => ∃ e1 es1', es1 = .cons e1 es1' ∧ Ren A e e1 ∧ RenL A es es1'
end

mutual
/-- `A` is not used in the tree: no variable occurrence and no quantifier carries that name -/
def NoName (A : String) : Expr → Prop
  | .lit .. | .this _ => True
  | .var _ x => x ≠ A
  | .set _ vs => NoNameL A vs
  | .range _ lo hi _ _ => NoName A lo ∧ NoName A hi
  | .quant _ _ x d b => x ≠ A ∧ NoName A d ∧ NoName A b
  | .un _ _ a => NoName A a
  | .bin _ _ a b => NoName A a ∧ NoName A b
  | .call _ _ as => NoNameL A as
  | .field _ m _ => NoName A m
  | .index _ a i => NoName A a ∧ NoName A i
def NoNameL (A : String) : ExprList → Prop
  | .nil => True
  | .cons e es => NoName A e ∧ NoNameL A es
end

mutual
/-- every quantifier of the tree passes the constructor's own checks when re-entered with its own parts -/
def Rebuildable : Expr → Prop
  | .lit .. | .this _ | .var .. => True
  | .set _ vs => RebuildableL vs
  | .range _ lo hi _ _ => Rebuildable lo ∧ Rebuildable hi
  | .quant t q x d b => mkQuant q x d b = .ok (.quant t q x d b) ∧ Rebuildable d ∧ Rebuildable b
  | .un _ _ a => Rebuildable a
  | .bin _ _ a b => Rebuildable a ∧ Rebuildable b
  | .call t f as => mkCall f as = .ok (.call t f as) ∧ RebuildableL as
  | .field _ m _ => Rebuildable m
  | .index _ a i => Rebuildable a ∧ Rebuildable i
def RebuildableL : ExprList → Prop
  | .nil => True
  | .cons e es => Rebuildable e ∧ RebuildableL es
end

theorem WTSet_members : ∀ (vs : ExprList), WTSet vs → ∀ e ∈ vs.toList, sub e.ty T.PRIMITIVE ∧ e.ty ≠ 0
  | .nil, _, e, he => nomatch he
  | .cons v vs, h, e, he => by
      rcases List.mem_cons.1 he with rfl | he
      · exact ⟨h.2.1, WT_ne _ h.1⟩
      · exact WTSet_members vs h.2.2 e he

theorem ite_ok_of {α : Type} {c : Prop} [Decidable c] {x y : M α} {z : α} (hx : c → x = .ok z) (hy : y = .ok z) :
    (if c then x else y) = .ok z := by
  split
  · exact hx ‹c›
  · exact hy

mutual
/-- **C13**: substituting the variable back by the current message restores the original tree -/
theorem subst_back (A : String) : ∀ (e e1 : Expr), Ren A e e1 → WT e → Rebuildable e → NoName A e →
    substE (isVarNamed A) (.this T.MESSAGE) e1 = .ok e
  | .this t, _, ⟨ty, rfl⟩, hw, _, _ => by
      cases (hw : t = T.MESSAGE)
      exact congrArg Except.ok (if_pos (beq_self_eq_true A))
  | .lit t k v, _, rfl, _, _, _ => rfl
  | .var t x, _, rfl, _, _, hn =>
      congrArg Except.ok (if_neg (by simpa [isVarNamed] using Ne.symm hn))
  | .set t vs, _, ⟨vs1, rfl, hrl⟩, hw, hb, hn => by
      -- `substE` unfolds by definition (`simp only [substE]` is far slower to check)
      change (substL (isVarNamed A) (.this T.MESSAGE) vs1 >>= _) = _
      rw [substL_back A vs vs1 hrl (WTSet_WTList hw.2) hb hn]
      refine ite_ok_of (fun h => by subst h; rfl) ?_
      rw [castList_stable T.PRIMITIVE vs (WTSet_members vs hw.2)]
      rfl
  | .range t lo hi a b, _, ⟨lo1, hi1, rfl, h1, h2⟩, ⟨_, hwl, hwh, hsl, hsh⟩, hb, hn => by
      change (substE (isVarNamed A) (.this T.MESSAGE) lo1 >>= _) = _
      rw [subst_back A lo lo1 h1 hwl hb.1 hn.1, subst_back A hi hi1 h2 hwh hb.2 hn.2]
      refine ite_ok_of (fun h => by obtain ⟨rfl, rfl⟩ := h; rfl) ?_
      rw [castE_stable hsl (WT_ne lo hwl), castE_stable hsh (WT_ne hi hwh)]
      rfl
  | .quant t q x d b, _, ⟨d1, b1, rfl, h1, h2⟩, hw, hb, hn => by
      change (substE (isVarNamed A) (.this T.MESSAGE) d1 >>= _) = _
      rw [subst_back A d d1 h1 hw.2.1 hb.2.1 hn.2.1, subst_back A b b1 h2 hw.2.2.1 hb.2.2 hn.2.2]
      exact ite_ok_of (fun h => by obtain ⟨rfl, rfl⟩ := h; rfl) hb.1
  | .un t op a, _, ⟨a1, rfl, h1⟩, hw@⟨_, _, _, hwa, _⟩, hb, hn => by
      change (substE (isVarNamed A) (.this T.MESSAGE) a1 >>= _) = _
      rw [subst_back A a a1 h1 hwa hb hn]
      exact ite_ok_of (fun h => by subst h; rfl) (rebuild_stable_un t op a hw)
  | .bin t op a b, _, ⟨a1, b1, rfl, h1, h2⟩, hw@⟨_, _, _, hwa, hwb, _⟩, hb, hn => by
      change (substE (isVarNamed A) (.this T.MESSAGE) a1 >>= _) = _
      rw [subst_back A a a1 h1 hwa hb.1 hn.1, subst_back A b b1 h2 hwb hb.2 hn.2]
      exact ite_ok_of (fun h => by obtain ⟨rfl, rfl⟩ := h; rfl) (rebuild_stable_bin t op a b hw)
  | .call t f as, _, ⟨as1, rfl, hrl⟩, ⟨_, _, _, hwl, _⟩, hb, hn => by
      change (substL (isVarNamed A) (.this T.MESSAGE) as1 >>= _) = _
      rw [substL_back A as as1 hrl hwl hb.2 hn]
      exact ite_ok_of (fun h => by subst h; rfl) hb.1
  | .field t m n, _, ⟨m1, rfl, h1⟩, hw, hb, hn => by
      change (substE (isVarNamed A) (.this T.MESSAGE) m1 >>= _) = _
      rw [subst_back A m m1 h1 hw.2.2.1 hb hn]
      exact ite_ok_of (fun h => by subst h; rfl) (rebuild_stable_field t m n hw)
  | .index t a i, _, ⟨a1, i1, rfl, h1, h2⟩, hw, hb, hn => by
      change (substE (isVarNamed A) (.this T.MESSAGE) a1 >>= _) = _
      rw [subst_back A a a1 h1 hw.2.2.1 hb.1 hn.1, subst_back A i i1 h2 hw.2.2.2.1 hb.2 hn.2]
      exact ite_ok_of (fun h => by obtain ⟨rfl, rfl⟩ := h; rfl) (rebuild_stable_index t a i hw)
theorem substL_back (A : String) : ∀ (es es1 : ExprList), RenL A es es1 → WTList es → RebuildableL es → NoNameL A es →
    substL (isVarNamed A) (.this T.MESSAGE) es1 = .ok es
  | .nil, _, rfl, _, _, _ => rfl
  | .cons e es, _, ⟨e1, es1', rfl, h1, h2⟩, hw, hb, hn => by
      change (substE (isVarNamed A) (.this T.MESSAGE) e1 >>= _) = _
      rw [subst_back A e e1 h1 hw.1 hb.1 hn.1, substL_back A es es1' h2 hw.2 hb.2 hn.2]
      rfl
end

mutual
/-- a renaming of a tree that does not use the name `A` has no quantifier binding `A` -/
theorem ren_noBind (A : String) : ∀ (e e1 : Expr), Ren A e e1 → NoName A e → NoBind A e1
  | .this _, _, ⟨_, rfl⟩, _ => (noBind_iff A _).2 trivial
  | .lit .., _, rfl, _ => (noBind_iff A _).2 trivial
  | .var .., _, rfl, _ => (noBind_iff A _).2 trivial
  | .set _ vs, _, ⟨vs1, rfl, hl⟩, hn => (noBind_iff A _).2 (renL_noBind A vs vs1 hl hn)
  | .range _ lo hi _ _, _, ⟨l1, h1, rfl, hl, hh⟩, hn => (noBind_iff A _).2 ⟨ren_noBind A lo l1 hl hn.1, ren_noBind A hi h1 hh hn.2⟩
  | .quant _ _ _ d b, _, ⟨d1, b1, rfl, hd, hb⟩, hn =>
      (noBind_iff A _).2 ⟨hn.1, ren_noBind A d d1 hd hn.2.1, ren_noBind A b b1 hb hn.2.2⟩
  | .un _ _ a, _, ⟨a1, rfl, ha⟩, hn => (noBind_iff A _).2 (ren_noBind A a a1 ha hn)
  | .bin _ _ a b, _, ⟨a1, b1, rfl, ha, hb⟩, hn => (noBind_iff A _).2 ⟨ren_noBind A a a1 ha hn.1, ren_noBind A b b1 hb hn.2⟩
  | .call _ _ as, _, ⟨as1, rfl, hl⟩, hn => (noBind_iff A _).2 (renL_noBind A as as1 hl hn)
  | .field _ m _, _, ⟨m1, rfl, hm⟩, hn => (noBind_iff A _).2 (ren_noBind A m m1 hm hn)
  | .index _ a i, _, ⟨a1, i1, rfl, ha, hi⟩, hn => (noBind_iff A _).2 ⟨ren_noBind A a a1 ha hn.1, ren_noBind A i i1 hi hn.2⟩
theorem renL_noBind (A : String) : ∀ (es es1 : ExprList), RenL A es es1 → NoNameL A es → NoBindL A es1
  | .nil, _, rfl, _ => fun _ hv => nomatch hv
  | .cons e es, _, ⟨e1, es1', rfl, he, hes⟩, hn => (noBindL_cons A _ _).2 ⟨ren_noBind A e e1 he hn.1, renL_noBind A es es1' hes hn.2⟩
end

/-- **C13**: `replace_var_with_this(·, A)` undoes a renaming of the current message to `@A` (`Ren`), for a well-typed tree
    in which `A` is not otherwise used. (That `replace_this_with_var(e, A)` produces such a renaming is `replaceThisWithVar_ren`,
    C13c, for trees in which the current message occurs only under field accesses.) -/
theorem replaceVarWithThis_undoes (A : String) (e e1 : Expr) (hr : Ren A e e1) (hw : WT e) (hb : Rebuildable e) (hn : NoName A e) :
    replaceVarWithThisE e1 A = .ok e := by
  unfold replaceVarWithThisE Expr.replaceVar
  rw [substV_eq_substE A _ e1 (ren_noBind A e e1 hr hn)]
  exact subst_back A e e1 hr hw hb hn

-- non-vacuity: `x > 0` (x a field of the current message) renamed to `@A.x > 0`
example : replaceVarWithThisE (.bin T.BOOL ">" (.field T.NUMBER (.var T.MESSAGE "A") "x") (.lit T.NUMBER "0" (.int 0))) "A"
    = .ok (.bin T.BOOL ">" (.field T.NUMBER (.this T.MESSAGE) "x") (.lit T.NUMBER "0" (.int 0))) := by rfl

end Hpl
