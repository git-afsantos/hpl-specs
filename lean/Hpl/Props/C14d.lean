import Hpl.Props.C02
import Hpl.Props.C11
import Hpl.Props.C14
/-! C14 / C11, when `canonical_form` is total: the only way it fails is the sanity check of a copy (`canonical_error_is_sanity_of_copy`),
    and a copy fails it only by losing an alias that a later event references (the known finding `C11-split-unbinds-alias`).  Proved
    here: `canonical_form` succeeds exactly when nothing is split or every copy is well-scoped (`canonical_ok_iff`); it does so on
    an accepted property in which no event references an alias bound in a split position (`canonical_total_noRef`), in particular
    where the split positions bind no alias (`canonical_total`). -/
namespace Hpl

theorem simpleEvents_sub : ∀ (E e : Event), e ∈ E.simpleEvents →
    (∀ r ∈ e.freeRefs, r ∈ E.freeRefs) ∧ (∀ a ∈ e.aliases, a ∈ E.aliases) ∧ (E.quantOK → e.quantOK)
  | .simple n a p, e, h => by
      cases List.mem_singleton.1 h
      exact ⟨fun _ h => h, fun _ h => h, fun h => h⟩
  | .disj x y, e, h => by
      rcases List.mem_append.1 h with h | h
      · obtain ⟨h1, h2, h3⟩ := simpleEvents_sub x e h
        exact ⟨fun r hr => List.mem_append_left _ (h1 r hr),
               fun a ha => List.mem_append_left _ (h2 a ha), fun hq => h3 hq.1⟩
      · obtain ⟨h1, h2, h3⟩ := simpleEvents_sub y e h
        exact ⟨fun r hr => List.mem_append_right _ (h1 r hr),
               fun a ha => List.mem_append_right _ (h2 a ha), fun hq => h3 hq.2⟩

theorem Bound.of_alternative {E e : Event} {avail : List String} (hb : Bound E avail) (h : e ∈ E.simpleEvents) : Bound e avail :=
  ⟨fun r hr => hb.1 r ((simpleEvents_sub E e h).1 r hr), fun a ha => hb.2 a ((simpleEvents_sub E e h).2.1 a ha)⟩

theorem EvOK.of_alternative {E e : Event} (hb : EvOK E) (h : e ∈ E.simpleEvents) : EvOK e :=
  ⟨(simpleEvents_sub E e h).2.2 hb.1, fun a ha => hb.2 a ((simpleEvents_sub E e h).2.1 a ha)⟩

theorem aliases_nil_of_alternative {E e : Event} (hn : E.aliases = []) (h : e ∈ E.simpleEvents) : e.aliases = [] := by
  refine List.eq_nil_iff_forall_not_mem.2 fun a ha => ?_
  have := (simpleEvents_sub E e h).2.1 a ha
  rw [hn] at this; cases this

/-- the event positions `canonical_form` splits bind no alias -/
def SplitsBindNothing (p : Property) : Prop :=
  (∀ a, p.scope.activator = some a → (p.scope.kind = .after ∨ p.scope.kind = .afterUntil) → a.aliases = []) ∧
  (∀ e, splitEvent p.pattern = some e → e.aliases = [])

theorem canonicalScopes_cases {s s' : Scope} (hs' : s' ∈ canonicalScopes s) :
    s' = s ∨ ∃ a e, s.activator = some a ∧ (s.kind = .after ∨ s.kind = .afterUntil) ∧ e ∈ a.simpleEvents ∧ s' = { s with activator := some e } := by
  unfold canonicalScopes at hs'
  split at hs'
  · rename_i a hk ha
    obtain ⟨e, he, rfl⟩ := List.mem_map.1 hs'
    exact Or.inr ⟨a, e, ha, Or.inl hk, he, rfl⟩
  · rename_i a hk ha
    obtain ⟨e, he, rfl⟩ := List.mem_map.1 hs'
    exact Or.inr ⟨a, e, ha, Or.inr hk, he, rfl⟩
  · simp only [List.mem_singleton] at hs'; exact Or.inl hs'

theorem canonicalScopes_scopeOK {s s' : Scope} (hs : ScopeOK s) (hs' : s' ∈ canonicalScopes s) : ScopeOK s' := by
  rcases canonicalScopes_cases hs' with rfl | ⟨a, e, ha, _, he, rfl⟩
  · exact hs
  · exact ⟨fun a' ha' => by cases ha'; exact (hs.1 a ha).of_alternative he, hs.2⟩

theorem canonicalScopes_ok {s s' : Scope} (hs : ScopeOK s)
    (hna : ∀ a, s.activator = some a → (s.kind = .after ∨ s.kind = .afterUntil) → a.aliases = [])
    (hfree : ∀ a, s.activator = some a → ∀ r ∈ a.freeRefs, False) (hs' : s' ∈ canonicalScopes s) :
    ScopeOK s' ∧ actAliases s' = actAliases s ∧ s'.terminator = s.terminator ∧ (∀ a, s'.activator = some a → ∀ r ∈ a.freeRefs, False) := by
  refine ⟨canonicalScopes_scopeOK hs hs', ?_⟩
  rcases canonicalScopes_cases hs' with rfl | ⟨a, e, ha, hk, he, rfl⟩
  · exact ⟨rfl, rfl, hfree⟩
  · refine ⟨?_, rfl, ?_⟩
    · simp only [actAliases, ha, aliases_nil_of_alternative (hna a ha hk) he, hna a ha hk]
    · intro a' ha' r hr
      cases ha'
      exact hfree a ha r ((simpleEvents_sub a e he).1 r hr)

/-! ## exactly when `canonical_form` fails -/

theorem canonicalPatterns_patOK {q q' : Pattern} (hq : PatOK q) (hq' : q' ∈ canonicalPatterns q) : PatOK q' := by
  unfold canonicalPatterns at hq'
  split at hq'
  · obtain ⟨e, he, rfl⟩ := List.mem_map.1 hq'
    exact ⟨hq.1.of_alternative he, hq.2⟩
  · split at hq'
    · rename_i t hk ht
      obtain ⟨e, he, rfl⟩ := List.mem_map.1 hq'
      exact ⟨hq.1, fun t' ht' => by cases ht'; exact (hq.2 t ht).of_alternative he⟩
    · simp only [List.mem_singleton] at hq'; subst hq'; exact hq

theorem mapM_ok_all {α β : Type} (f : α → M β) : ∀ (l : List α) (r : List β), l.mapM f = .ok r → ∀ a ∈ l, ∃ b, f a = .ok b
  | [], _, _, a, ha => by cases ha
  | x :: l, r, h, a, ha => by
      rw [List.mapM_cons] at h
      obtain ⟨b, hb, h⟩ := bind_ok h
      obtain ⟨bs, hbs, _⟩ := bind_ok h
      rcases List.mem_cons.1 ha with rfl | ha
      · exact ⟨b, hb⟩
      · exact mapM_ok_all f l bs hbs a ha

/-- **exactly when `canonical_form` succeeds**: on a property whose events pass their constructors, either nothing is split (the
    property is returned as it is), or every copy — one alternative in each split position — is well-scoped by itself.  So the
    failure recorded as known finding `C11-split-unbinds-alias` (a copy that lost the alias a later event references, or …) is the
    *only* failure there is, and `WellScoped` of the copies is its exact description -/
theorem canonical_ok_iff (p : Property) (hs : ScopeOK p.scope) (hq : PatOK p.pattern) :
    (∃ qs, canonical p = .ok qs) ↔
      ((canonicalScopes p.scope).length = 1 ∧ (canonicalPatterns p.pattern).length = 1) ∨
      ∀ s' ∈ canonicalScopes p.scope, ∀ q' ∈ canonicalPatterns p.pattern, WellScoped s' q' := by
  constructor
  · rintro ⟨qs, h⟩
    by_cases hone : (canonicalScopes p.scope).length = 1 ∧ (canonicalPatterns p.pattern).length = 1
    · exact Or.inl hone
    · refine Or.inr (fun s' hs' q' hq' => ?_)
      unfold canonical at h
      simp only [hone, if_false] at h
      obtain ⟨b, hb⟩ := mapM_ok_all _ _ _ h (s', q') (List.mem_flatMap.2 ⟨s', hs', List.mem_map.2 ⟨q', hq', rfl⟩⟩)
      unfold butProp at hb
      obtain ⟨u, hu, _⟩ := bind_ok hb
      cases u
      exact (sanityCheck_ok_iff s' q' (canonicalScopes_scopeOK hs hs') (canonicalPatterns_patOK hq hq')).1 hu
  · rintro (hone | hall)
    · exact ⟨[p], by unfold canonical; simp only [hone, and_self, if_true]⟩
    · cases h : canonical p with
      | ok qs => exact ⟨qs, rfl⟩
      | error e =>
        obtain ⟨s', hs', q', hq', herr⟩ := canonical_error_is_sanity_of_copy p e h
        rw [(sanityCheck_ok_iff s' q' (canonicalScopes_scopeOK hs hs') (canonicalPatterns_patOK hq hq')).2 (hall s' hs' q' hq')] at herr
        cases herr

/-! ## the general form: aliases in split positions are fine as long as no other event references them -/

theorem Bound.mono_avail {ev : Event} {avail avail' : List String} (hb : Bound ev avail) (hsub : ∀ a ∈ avail', a ∈ avail)
    (hrefs : ∀ r ∈ ev.freeRefs, r ∈ avail → r ∈ avail') : Bound ev avail' :=
  ⟨fun r hr => hrefs r hr (hb.1 r hr), fun a ha hin => hb.2 a ha (hsub a hin)⟩

/-- the aliases bound in the positions `canonical_form` splits -/
def splitAliases (p : Property) : List String :=
  (match p.scope.kind, p.scope.activator with
    | .after, some a | .afterUntil, some a => a.aliases
    | _, _ => []) ++
  (match splitEvent p.pattern with | some e => e.aliases | none => [])

/-- no event references an alias bound in a split position (the situation of the known finding, negated) -/
def NoRefToSplitAlias (p : Property) : Prop :=
  (∀ r ∈ p.pattern.behaviour.freeRefs, r ∉ splitAliases p) ∧
  (∀ t, p.pattern.trigger = some t → ∀ r ∈ t.freeRefs, r ∉ splitAliases p) ∧
  (∀ q, p.scope.terminator = some q → ∀ r ∈ q.freeRefs, r ∉ splitAliases p)

theorem Bound.shrink_under {ev : Event} {X avail avail' : List String} (h : Bound ev (X ++ avail)) (hsub : ∀ a ∈ avail', a ∈ avail)
    (hrefs : ∀ r ∈ ev.freeRefs, r ∈ avail → r ∈ avail') : Bound ev (X ++ avail') :=
  h.mono_avail (fun a ha => List.mem_append.2 ((List.mem_append.1 ha).imp_right (hsub a)))
    (fun r hr hin => List.mem_append.2 ((List.mem_append.1 hin).imp_right (hrefs r hr)))

theorem PatternScoped.shrink {q : Pattern} {avail avail' : List String} (h : PatternScoped q avail)
    (hsub : ∀ a ∈ avail', a ∈ avail)
    (hb : ∀ r ∈ q.behaviour.freeRefs, r ∈ avail → r ∈ avail')
    (ht : ∀ t, q.trigger = some t → ∀ r ∈ t.freeRefs, r ∈ avail → r ∈ avail') : PatternScoped q avail' := by
  unfold PatternScoped at h ⊢
  cases hk : q.kind <;> cases htg : q.trigger <;> simp only [hk, htg] at h ⊢
  all_goals first
    | exact h.mono_avail hsub hb
    | skip
  · -- requirement
    exact ⟨h.1.mono_avail hsub hb, h.2.shrink_under hsub (ht _ htg)⟩
  · -- response
    exact ⟨h.1.mono_avail hsub (ht _ htg), h.2.shrink_under hsub hb⟩
  · -- prevention
    exact ⟨h.1.mono_avail hsub (ht _ htg), h.2.shrink_under hsub hb⟩

theorem canonicalPatterns_scoped {q q' : Pattern} (hq' : q' ∈ canonicalPatterns q)
    (hb : ∀ r ∈ q.behaviour.freeRefs, ∀ e, splitEvent q = some e → r ∉ e.aliases)
    (ht : ∀ t, q.trigger = some t → ∀ r ∈ t.freeRefs, ∀ e, splitEvent q = some e → r ∉ e.aliases) :
    (∀ avail, PatternScoped q avail → PatternScoped q' avail) ∧
    (∀ r ∈ q'.behaviour.freeRefs, r ∈ q.behaviour.freeRefs) ∧
    (∀ t', q'.trigger = some t' → ∃ t, q.trigger = some t ∧ ∀ r ∈ t'.freeRefs, r ∈ t.freeRefs) := by
  have keep : ∀ {ev : Event} {X Y avail : List String}, Bound ev (X ++ avail) → (∀ a ∈ Y, a ∈ X) → (∀ r ∈ ev.freeRefs, r ∉ X) →
      Bound ev (Y ++ avail) := fun h hsub hno =>
    h.mono_avail (fun a ha => List.mem_append.2 ((List.mem_append.1 ha).imp_left (hsub a)))
      (fun r hr hin => List.mem_append.2 (.inr ((List.mem_append.1 hin).resolve_left (hno r hr))))
  unfold canonicalPatterns at hq'
  unfold splitEvent at hb ht
  cases hk : q.kind <;> simp only [hk, PatternKind.isSafety, if_true, Bool.false_eq_true, if_false] at hq' hb ht
  · -- absence
    obtain ⟨e, he, rfl⟩ := List.mem_map.1 hq'
    refine ⟨fun avail h => ?_, (simpleEvents_sub _ e he).1, fun t' ht' => ⟨t', ht', fun _ h => h⟩⟩
    unfold PatternScoped at h ⊢
    simp only [hk] at h ⊢
    exact h.of_alternative he
  · -- existence
    simp only [List.mem_singleton] at hq'; subst hq'
    exact ⟨fun _ h => h, fun _ h => h, fun t' ht' => ⟨t', ht', fun _ h => h⟩⟩
  · -- requirement
    obtain ⟨e, he, rfl⟩ := List.mem_map.1 hq'
    refine ⟨fun avail h => ?_, (simpleEvents_sub _ e he).1, fun t' ht' => ⟨t', ht', fun _ h => h⟩⟩
    unfold PatternScoped at h ⊢
    cases htg : q.trigger with
    | none => simp only [hk, htg] at h
    | some t =>
      simp only [hk, htg] at h ⊢
      exact ⟨h.1.of_alternative he, keep h.2 (simpleEvents_sub _ e he).2.1 (fun r hr => ht t htg r hr _ rfl)⟩
  · -- response
    cases htg : q.trigger with
    | none =>
      simp only [htg, List.mem_singleton] at hq'; subst hq'
      exact ⟨fun _ h => h, fun _ h => h, fun t' ht' => by rw [htg] at ht'; cases ht'⟩
    | some t =>
      simp only [htg] at hq' hb
      obtain ⟨e, he, rfl⟩ := List.mem_map.1 hq'
      refine ⟨fun avail h => ?_, fun _ h => h, fun t' ht' => ⟨t, rfl, ?_⟩⟩
      · unfold PatternScoped at h ⊢
        simp only [hk, htg] at h ⊢
        exact ⟨h.1.of_alternative he, keep h.2 (simpleEvents_sub _ e he).2.1 (fun r hr => hb r hr _ rfl)⟩
      · cases ht'; exact (simpleEvents_sub _ e he).1
  · -- prevention
    obtain ⟨e, he, rfl⟩ := List.mem_map.1 hq'
    refine ⟨fun avail h => ?_, (simpleEvents_sub _ e he).1, fun t' ht' => ⟨t', ht', fun _ h => h⟩⟩
    unfold PatternScoped at h ⊢
    cases htg : q.trigger with
    | none => simp only [hk, htg] at h
    | some t =>
      simp only [hk, htg] at h ⊢
      exact ⟨h.1, h.2.of_alternative he⟩

theorem canonicalPatterns_ok {q q' : Pattern} (hq : PatOK q) (hna : ∀ e, splitEvent q = some e → e.aliases = [])
    (hq' : q' ∈ canonicalPatterns q) : PatOK q' ∧ ∀ avail, PatternScoped q avail → PatternScoped q' avail :=
  ⟨canonicalPatterns_patOK hq hq',
    (canonicalPatterns_scoped hq' (fun r _ e he hr => by rw [hna e he] at hr; cases hr)
      (fun t _ r _ e he hr => by rw [hna e he] at hr; cases hr)).1⟩

/-- **C14 / C11, `canonical_form` is total where no split position binds an alias**: on an accepted property (`WellScoped`, what
    `HplProperty` checks) whose split positions — the activator of an `after` scope, the behaviour of a safety pattern, the trigger
    of a response — bind no alias, every copy passes `but()`'s sanity check and `canonical_form` returns a non-empty list.  (With
    an alias in a split position the copies for the other alternatives lose it: the known finding.) -/
theorem canonical_total (p : Property) (hs : ScopeOK p.scope) (hq : PatOK p.pattern) (hw : WellScoped p.scope p.pattern)
    (hna : SplitsBindNothing p) : ∃ qs, canonical p = .ok qs ∧ qs ≠ [] := by
  cases h : canonical p with
  | ok qs => exact ⟨qs, rfl, canonical_nonempty p qs h⟩
  | error e =>
    obtain ⟨s', hs', q', hq', herr⟩ := canonical_error_is_sanity_of_copy p e h
    obtain ⟨hso, hal, hterm, hfree⟩ := canonicalScopes_ok hs hna.1 hw.1 hs'
    obtain ⟨hqo, hps⟩ := canonicalPatterns_ok hq hna.2 hq'
    have hws : WellScoped s' q' := by
      refine ⟨hfree, ?_, ?_⟩
      · rw [hal]; exact hps _ hw.2.1
      · intro t ht; rw [hal]; rw [hterm] at ht; exact hw.2.2 t ht
    rw [(sanityCheck_ok_iff s' q' hso hqo).2 hws] at herr
    cases herr

/-- **`canonical_form` is total unless an event references an alias bound in a split position**: on an accepted property in which
    no event references an alias bound by the activator of an `after` scope, by the behaviour of a safety pattern or by the trigger
    of a response, every copy is well-scoped, so `canonical_form` returns its non-empty list — the known finding
    `C11-split-unbinds-alias` (a later event references an alias that only one alternative binds) is the only obstacle -/
theorem canonical_total_noRef (p : Property) (hs : ScopeOK p.scope) (hq : PatOK p.pattern) (hw : WellScoped p.scope p.pattern)
    (hno : NoRefToSplitAlias p) : ∃ qs, canonical p = .ok qs ∧ qs ≠ [] := by
  have hex : ∃ qs, canonical p = .ok qs := by
    refine (canonical_ok_iff p hs hq).2 (Or.inr (fun s' hs' q' hq' => ?_))
    have hSP : ∀ r, r ∉ splitAliases p → ∀ e, splitEvent p.pattern = some e → r ∉ e.aliases := by
      intro r hr e he hin
      apply hr
      unfold splitAliases
      rw [he]
      exact List.mem_append.2 (Or.inr hin)
    obtain ⟨hscoped, hbsub, htsub⟩ := canonicalPatterns_scoped hq'
      (fun r hr e he => hSP r (hno.1 r hr) e he) (fun t ht r hr e he => hSP r (hno.2.1 t ht r hr) e he)
    have hp1 := hscoped _ hw.2.1
    rcases canonicalScopes_cases hs' with rfl | ⟨a, e, ha, hk, he, rfl⟩
    · exact ⟨hw.1, hp1, hw.2.2⟩
    · have hSA : ∀ r, r ∉ splitAliases p → r ∉ a.aliases := by
        intro r hr hin
        apply hr
        unfold splitAliases
        refine List.mem_append.2 (Or.inl ?_)
        rcases hk with hk | hk <;> simp only [hk, ha] <;> exact hin
      have hact : actAliases p.scope = a.aliases := by simp only [actAliases, ha]
      have hact' : actAliases ({ p.scope with activator := some e } : Scope) = e.aliases := by simp only [actAliases]
      refine ⟨?_, ?_, ?_⟩
      · intro a' ha' r hr; cases ha'
        exact hw.1 a ha r ((simpleEvents_sub a e he).1 r hr)
      · rw [hact']
        rw [hact] at hp1
        refine hp1.shrink (simpleEvents_sub a e he).2.1 ?_ ?_
        · intro r hr hin; exact absurd hin (hSA r (hno.1 r (hbsub r hr)))
        · intro t' ht' r hr hin
          obtain ⟨t, ht, hsub⟩ := htsub t' ht'
          exact absurd hin (hSA r (hno.2.1 t ht r (hsub r hr)))
      · intro qt hqt
        rw [hact']
        have := hw.2.2 qt hqt
        rw [hact] at this
        exact this.mono_avail (simpleEvents_sub a e he).2.1
          (fun r hr hin => absurd hin (hSA r (hno.2.2 qt hqt r hr)))
  obtain ⟨qs, h⟩ := hex
  exact ⟨qs, h, canonical_nonempty p qs h⟩

/-- the hypotheses are met by a property that is really split (2 scopes × 3 patterns) -/
example : ScopeOK exC11.scope ∧ PatOK exC11.pattern ∧ WellScoped exC11.scope exC11.pattern ∧ SplitsBindNothing exC11 ∧
    ∃ qs, canonical exC11 = .ok qs ∧ qs.length = 6 := by
  refine ⟨?_, ?_, ?_, ?_, _, rfl, rfl⟩
  · simp [ScopeOK, EvOK, exC11, evS, Event.quantOK, Pred.quantOK, Event.aliases]
  · simp [PatOK, EvOK, exC11, evS, Event.quantOK, Pred.quantOK, Event.aliases]
  · exact (wellScopedB_iff _ _).1 (by decide)
  · simp [SplitsBindNothing, splitEvent, exC11, evS, Event.aliases, PatternKind.isSafety]

/-- an alias bound in a split position and referenced nowhere: `after (a as A or b): no c` is split in two -/
def exC14d : Property :=
  ⟨⟨.after, some (.disj (.simple "a" (some "A") .vtrue) (evS "b")), none⟩, ⟨.absence, evS "c", none, 0, none⟩, []⟩

example : ScopeOK exC14d.scope ∧ PatOK exC14d.pattern ∧ WellScoped exC14d.scope exC14d.pattern ∧ NoRefToSplitAlias exC14d ∧
    ¬ SplitsBindNothing exC14d ∧ ∃ qs, canonical exC14d = .ok qs ∧ qs.length = 2 := by
  refine ⟨?_, ?_, ?_, ?_, ?_, _, rfl, rfl⟩
  · simp [ScopeOK, EvOK, exC14d, evS, Event.quantOK, Pred.quantOK, Event.aliases]
  · simp [PatOK, EvOK, exC14d, evS, Event.quantOK, Pred.quantOK, Event.aliases]
  · exact (wellScopedB_iff _ _).1 (by decide)
  · simp [NoRefToSplitAlias, exC14d, evS, Event.freeRefs, Pred.freeVars]
  · intro h
    have := h.1 _ rfl (Or.inl rfl)
    simp [Event.aliases, evS] at this

end Hpl
