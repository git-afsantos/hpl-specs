import Hpl.Props.C06f
/-!
# C06 — literal tokens are scanned as themselves (decidable side conditions of `print_parse_roundtrip`)

The number and string scanners are *local*: what they do on `w ++ rest` is what they do on `w`, when `rest` starts with a character
that cannot continue the token (`scanNumber_local`, `scanString_local`). Hence a literal whose token text is scanned completely on
its own (`numTokOk`, `strTokOk`: decidable, evaluated by the driver on every printed tree) is scanned as that one token in every
printed context.
-/
namespace Hpl

theorem takeWhileC_local (p : Char → Bool) : ∀ (w rest : List Char), (∀ x, rest.head? = some x → p x = false) →
    takeWhileC p (w ++ rest) = ((takeWhileC p w).1, (takeWhileC p w).2 ++ rest)
  | [], rest, h => by
      cases rest with
      | nil => rfl
      | cons x xs => simp [takeWhileC, h x rfl]
  | c :: w, rest, h => by
      by_cases hc : p c = true
      · simp [takeWhileC, hc, takeWhileC_local p w rest h]
      · simp [takeWhileC, hc]

/-- a character that cannot continue a number -/
def NumStop (rest : List Char) : Prop :=
  ∀ x, rest.head? = some x → isDigitA x = false ∧ x ≠ '.' ∧ x ≠ 'e' ∧ x ≠ 'E' ∧ x ≠ '+' ∧ x ≠ '-'

theorem NumStop.digit {rest : List Char} (h : NumStop rest) : ∀ x, rest.head? = some x → isDigitA x = false := fun x hx => (h x hx).1

theorem scanExp_stop {rest : List Char} (h : NumStop rest) : scanExp rest = ([], rest) := by
  cases rest with
  | nil => rfl
  | cons x xs =>
    obtain ⟨_, _, h1, h2, _, _⟩ := h x rfl
    simp [scanExp, h1, h2]

theorem scanExp_local (u rest : List Char) (h : NumStop rest) : scanExp (u ++ rest) = ((scanExp u).1, (scanExp u).2 ++ rest) := by
  fun_cases scanExp u with
  | case1 e he s d rest' hsd ds r' hr =>
    simp only [scanExp, List.cons_append, he, hsd, if_true, takeWhileC_local isDigitA rest' rest h.digit, hr]
  | case2 e he s d rest' hsd hs ds r' hr =>
    have := takeWhileC_local isDigitA (d :: rest') rest h.digit
    simp only [List.cons_append] at this
    simp only [scanExp, List.cons_append, he, hsd, hs, if_true, Bool.false_eq_true, if_false, this, hr]
  | case3 e he s d rest' hsd hs =>
    simp only [scanExp, List.cons_append, he, hsd, hs, if_true, Bool.false_eq_true, if_false]
  | case4 e he d hd =>
    cases rest with
    | nil => simp only [List.append_nil, scanExp, he, hd, if_true]
    | cons x xs =>
      have hx := h x rfl
      simp only [scanExp, List.cons_append, List.nil_append, he, hd, hx.1, if_true, Bool.and_false, Bool.false_eq_true, if_false, takeWhileC]
  | case5 e he d hd =>
    cases rest with
    | nil => simp only [List.append_nil, scanExp, he, hd, if_true, Bool.false_eq_true, if_false]
    | cons x xs =>
      have hx := h x rfl
      simp only [scanExp, List.cons_append, List.nil_append, he, hd, hx.1, if_true, Bool.and_false, Bool.false_eq_true, if_false]
  | case6 e he =>
    match rest, h with
    | [], _ => simp only [List.append_nil, scanExp, he, if_true]
    | [x], h => simp only [scanExp, List.cons_append, List.nil_append, he, (h x rfl).1, if_true, Bool.false_eq_true, if_false]
    | x :: y :: zs, h =>
      obtain ⟨hd, _, _, _, hp, hm⟩ := h x rfl
      have hs : (x == '+' || x == '-') = false := by simp [hp, hm]
      simp only [scanExp, List.cons_append, List.nil_append, he, hd, hs, if_true, Bool.false_and, Bool.false_eq_true, if_false]
  | case7 e rest' he => simp only [scanExp, List.cons_append, he, Bool.false_eq_true, if_false]
  | case8 =>
    rw [List.nil_append, scanExp_stop h]
theorem scanNumber_local (w rest : List Char) (h : NumStop rest) :
    scanNumber (w ++ rest) = (scanNumber w).map (fun p => (p.1, p.2 ++ rest)) := by
  have other : ∀ r1 : List Char, (∀ r2, r1 = '.' :: r2 → False) → ∀ r2, r1 ++ rest = '.' :: r2 → False := by
    intro r1 h1 r2 h2
    cases r1 with
    | nil =>
      cases rest with
      | nil => cases h2
      | cons x xs => cases h2; exact (h '.' rfl).2.1 rfl
    | cons x xs => cases h2; exact h1 _ rfl
  fun_cases scanNumber w with
  | case1 ip r2 fp r3 hf hemp hi =>
    simp only [scanNumber, takeWhileC_local isDigitA w rest h.digit, hi, List.cons_append, takeWhileC_local isDigitA r2 rest h.digit, hf, hemp,
      if_true, Option.map_none]
  | case2 ip r2 fp r3 hf hemp ex r4 he hi =>
    simp only [scanNumber, takeWhileC_local isDigitA w rest h.digit, hi, List.cons_append, takeWhileC_local isDigitA r2 rest h.digit, hf, hemp,
      scanExp_local r3 rest h, he, Bool.false_eq_true, if_false, Option.map_some]
  | case3 ip r1 hi hemp hnd =>
    simp only [scanNumber, takeWhileC_local isDigitA w rest h.digit, hi]
    split
    · rename_i r2 heq
      exact (other r1 hnd r2 heq).elim
    · simp only [hemp, if_true]
      rfl
  | case4 ip r1 hi hemp ex r4 he hnd =>
    simp only [scanNumber, takeWhileC_local isDigitA w rest h.digit, hi]
    split
    · rename_i r2 heq
      exact (other r1 hnd r2 heq).elim
    · show _ = Option.map _ (some (ip ++ (scanExp r1).1, (scanExp r1).2))
      simp only [hemp, scanExp_local r1 rest h, he, Bool.false_eq_true, if_false, Option.map_some]
theorem Delim.numStop {rest : List Char} (h : Delim rest) : NumStop rest := h.all (by decide)

theorem numGuard_append {c : Char} {w : List Char} (h : numGuard c w = true) (rest : List Char) : numGuard c (w ++ rest) = true := by
  cases w with
  | nil =>
    simp only [numGuard, Bool.and_false, Bool.or_false] at h
    simp only [numGuard, h, Bool.true_or]
  | cons x xs => exact h

theorem numGuard_class {c : Char} {r : List Char} (h : numGuard c r = true) : isWs c = false ∧ (c == '@') = false ∧ (c == '"') = false := by
  have hc : isDigitA c = true ∨ c = '.' := by
    simp only [numGuard, Bool.or_eq_true, Bool.and_eq_true, beq_iff_eq] at h
    exact h.imp id (·.1)
  rcases hc with hc | rfl
  · refine ⟨?_, class_ne hc (by decide), class_ne hc (by decide)⟩
    simp only [isWs, class_ne hc (x := ' ') (by decide), class_ne hc (x := '\t') (by decide), class_ne hc (x := '\x0c') (by decide),
      class_ne hc (x := '\r') (by decide), class_ne hc (x := '\n') (by decide), Bool.or_self]
  · decide

theorem scanTok_num {c : Char} {w rest : List Char} (d : Nat) (hw : numTokOk (c :: w) = true) (hP : NumStop rest) :
    scanTok d c (w ++ rest) = some (.num, c :: w, rest, d, (c :: w).getLast? != some '.') := by
  simp only [numTokOk, Bool.and_eq_true, beq_iff_eq] at hw
  have hg : numGuard c w = true := hw.2
  have hloc := scanNumber_local (c :: w) rest hP
  rw [hw.1] at hloc
  simp only [scanTok, (numGuard_class hg).2.1, (numGuard_class hg).2.2, numGuard_append hg rest, Bool.false_eq_true, if_false, if_true]
  rw [← List.cons_append, hloc]
  rfl

/-- a complete number token is scanned as one token before a delimiter -/
theorem lx_num (w : List Char) (d : Nat) (hw : numTokOk w = true) :
    Lx w d false [(.num, String.ofList w, false)] d false Delim := by
  cases w with
  | nil => cases hw
  | cons c w' =>
    have hg : numGuard c w' = true := by
      simp only [numTokOk, Bool.and_eq_true] at hw
      exact hw.2
    exact Lx.tok (numGuard_class hg).1 (fun _ hP => scanTok_num d hw hP.numStop) (fun h => by cases h) (fun h => by cases h)

/-- the string scanner never looks beyond the closing quote -/
theorem scanString_local (body acc : List Char) (s r rest : List Char) (h : scanString body acc = some (s, r)) :
    scanString (body ++ rest) acc = some (s, r ++ rest) := by
  fun_induction scanString body acc with
  | case1 acc => simp at h
  | case2 acc t => simp only [Option.some.injEq, Prod.mk.injEq] at h; obtain ⟨rfl, rfl⟩ := h; simp [scanString]
  | case3 acc c t hc => simp at h
  | case4 x body acc hc ih =>
    simp only [List.cons_append]
    rw [scanString]
    simp only [hc]
    exact ih h
  | case5 acc t => simp at h
  | case6 x body acc h1 h2 h3 ih =>
    by_cases hb : x = '\\'
    · subst hb
      cases body with
      | nil => simp [scanString] at h
      | cons y ys => exact absurd rfl (h2 y ys rfl)
    · simp only [List.cons_append]
      rw [scanString]
      · exact ih h
      · exact h1
      · exact fun _ _ hx _ => hb hx
      · exact h3

theorem lx_str (w : List Char) (d : Nat) (hw : strTokOk w = true) :
    Lx w d false [(.str, String.ofList w, false)] d true (fun _ => True) := by
  unfold strTokOk at hw
  split at hw
  · rename_i body
    refine Lx.tok rfl (fun rest _ => ?_) (fun h => by cases h) (fun _ => rfl)
    simp [scanTok, scanString_local body ['"'] _ _ rest (eq_of_beq hw)]
  · cases hw

theorem litLex_of {tok : String} {v : LitVal} (hok : litOk tok v = true) (hb : litLexB tok v = true) : LitLex tok v := by
  intro d hd
  have word : isCName tok = true → litTok tok v = wordT tok → Lx tok.toList d true [tokKey (litTok tok v)] d false Delim := by
    intro hc ht
    rw [ht, tokKey_wordT]
    exact (lx_wordS tok d hd hc).weakenP (fun rest hr => hr.notId)
  have num : (numberConstant tok).isSome = false → numTokOk tok.toList = true → litTok tok v = mkTok .num tok →
      Lx tok.toList d true [tokKey (litTok tok v)] d false Delim := by
    intro _ hn ht
    rw [ht]
    have := (lx_num tok.toList d hn).weaken (P' := Delim) (fun _ h => h)
    simpa [tokKey, mkTok, String.ofList_toList] using this
  cases v with
  | str s =>
    simp only [litLexB] at hb
    have := (lx_str tok.toList d hb).weaken (P' := Delim) (fun _ _ => trivial)
    simpa [litTok, tokKey, mkTok, String.ofList_toList] using this
  | bool b =>
    simp only [litOk, beq_iff_eq] at hok
    refine word ?_ (by simp [litTok])
    subst hok; cases b <;> decide
  | int _ | flt _ | inf | ninf | nan =>
    simp only [litOk, litLexB] at hok hb
    by_cases hc : (numberConstant tok).isSome = true
    · simp only [hc, if_true, Bool.and_eq_true] at hok
      exact word hok.2 (by simp [litTok, hc])
    · simp only [hc, Bool.false_or] at hb
      exact num (by simpa using hc) hb (by simp [litTok, hc])

mutual
theorem lexOk_of_B : ∀ (r : Raw), r.lexOkB = true → r.lexOk
  | .lit _ _, h => litLex_of (Bool.and_eq_true_iff.mp h).1 (Bool.and_eq_true_iff.mp h).2
  | .this, _ => trivial
  | .var _, h => h
  | .set vs, h => lexOkL_of_B vs h
  | .range lo hi _ _, h => ⟨lexOk_of_B lo (Bool.and_eq_true_iff.mp h).1, lexOk_of_B hi (Bool.and_eq_true_iff.mp h).2⟩
  | .quant _ _ d b, h => ⟨lexOk_of_B d (Bool.and_eq_true_iff.mp h).1, lexOk_of_B b (Bool.and_eq_true_iff.mp h).2⟩
  | .un _ a, h => lexOk_of_B a h
  | .bin _ a b, h => ⟨lexOk_of_B a (Bool.and_eq_true_iff.mp h).1, lexOk_of_B b (Bool.and_eq_true_iff.mp h).2⟩
  | .call _ as, h => lexOkL_of_B as h
  | .field m _, h => lexOk_of_B m h
  | .index a i, h => ⟨lexOk_of_B a (Bool.and_eq_true_iff.mp h).1, lexOk_of_B i (Bool.and_eq_true_iff.mp h).2⟩
theorem lexOkL_of_B : ∀ (rs : RawList), RawList.lexOkLB rs = true → RawList.lexOkL rs
  | .nil, _ => trivial
  | .cons e es, h => ⟨lexOk_of_B e (Bool.and_eq_true_iff.mp h).1, lexOkL_of_B es (Bool.and_eq_true_iff.mp h).2⟩
end

/-- **C06 on strings, expressions, decidable hypotheses**: for a syntax tree that is printable and whose literal tokens and variable
    names are complete tokens (`printable`, `lexOkB`: both computed by the driver for every tree the correspondence stream prints),
    every typed tree `e` the constructors build from it satisfies `parse (str e) = e`. -/
theorem print_parse_roundtrip_dec (r : Raw) (e : Expr) (hp : r.printable = true) (hl : r.lexOkB = true) (hb : build r = .ok e) :
    parseExpression e.print = .ok e :=
  print_parse_roundtrip r e hp (lexOk_of_B r hl) hb

/-- the scanner on the printed text, decidable hypotheses -/
theorem lex_printed_dec (r : Raw) (hp : r.printable = true) (hl : r.lexOkB = true) :
    ∃ ts, lexExpr (String.ofList r.chars) = .ok ts ∧ ts.map tokKey = r.toks.map tokKey :=
  lex_printed r hp (lexOk_of_B r hl)

end Hpl
