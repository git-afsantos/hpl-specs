import Hpl.Props.C09b
/-!
# C09 — the fuel of the `split_and` model suffices (the Python recursion and work list terminate within these bounds)

Part 1: the pre-split transform (`presplit` / `splitNot` / `splitQuant`) never runs out of `splitFuel e = 3·|e| + 3`
(`presplit_error` in C09b bounds the fuel a failing call can have had).
-/
namespace Hpl

theorem bind_ne_fuel {α β : Type} {X : M α} {K : α → M β} (hX : ∀ x, X = .error x → x ≠ fuelErr)
    (hK : ∀ a, X = .ok a → K a ≠ .error fuelErr) : (X >>= K) ≠ .error fuelErr := by
  cases h : X with
  | error x => exact fun hh => hX _ h (Except.error.inj hh)
  | ok a => exact hK a h

theorem type_ne_fuel {α : Type} : (.error .type : M α) ≠ .error fuelErr := fun h => Err.noConfusion (Except.error.inj h)

theorem mkNot_nofuel {a : Expr} : ∀ x, mkNot a = .error x → x ≠ fuelErr := fun _ h => (ctor_err (.inl (mkNot_err h))).2
theorem mkAnd_nofuel {a b : Expr} : ∀ x, mkAnd a b = .error x → x ≠ fuelErr := fun _ h => (ctor_err (.inl (mkAnd_err h))).2
theorem mkForall_nofuel {v : String} {d p : Expr} : ∀ x, mkForall v d p = .error x → x ≠ fuelErr :=
  fun _ h => (ctor_err (mkForall_err h)).2
theorem splitHalf_nofuel {v : String} {d a : Expr} : ∀ x, splitHalf v d a = .error x → x ≠ fuelErr :=
  fun _ h => (ctor_err (splitHalf_err h)).2

theorem ok_ne_fuel {α : Type} {a : α} : (Except.ok a : M α) ≠ .error fuelErr := by intro h; cases h

theorem presplit_fuel : ∀ f,
    (∀ e, 3 * e.size + 1 ≤ f → presplit f e ≠ .error fuelErr) ∧
    (∀ neg phi, 3 * phi.size + 3 ≤ f → splitNot f neg phi ≠ .error fuelErr) ∧
    (∀ qn q v d phi, 3 * phi.size + 2 ≤ f → splitQuant f qn q v d phi ≠ .error fuelErr) :=
  fun f => ⟨fun e hf h => ((presplit_error f).1 e _ h).2 hf rfl, fun neg phi hf h => ((presplit_error f).2.1 neg phi _ h).2 hf rfl,
    fun qn q v d phi hf h => ((presplit_error f).2.2 qn q v d phi _ h).2 hf rfl⟩

/-- the fuel `split_and` gives the transform suffices -/
theorem presplit_splitFuel (e : Expr) : presplit (splitFuel e) e ≠ .error fuelErr :=
  (presplit_fuel _).1 e (by unfold splitFuel; omega)

/-!
Part 2: the work list. `Lp e` = the number of conjuncts `e` is finally split into (`Ln e` the same for `not e`); the transform
never increases it, a conjunction splits it between its operands, and so a stack whose entries need `Σ (2·Lp − 1)` iterations never
exhausts `4·|e| + 4`.
-/

mutual
def Lp : Expr → Nat
  | .bin _ op a b => if op == Gen.AND_OPERATOR then Lp a + Lp b else 1
  | .un _ op p => if op == Gen.NOT_OPERATOR then Ln p else 1
  | .quant _ q _ _ p => (match q with | .all => Lp p | .some => 1)
  | .lit .. | .this .. | .var .. | .set .. | .range .. | .call .. | .field .. | .index .. => 1
def Ln : Expr → Nat
  | .bin _ op p q => if op == Gen.OR_OPERATOR then Ln p + Ln q else if op == Gen.IMPLIES_OPERATOR then Lp p + Ln q else 1
  | .un _ op p => if op == Gen.NOT_OPERATOR then Lp p else 1
  | .quant _ q _ _ p => (match q with | .some => Ln p | .all => 1)
  | .lit .. | .this .. | .var .. | .set .. | .range .. | .call .. | .field .. | .index .. => 1
end

theorem L_bounds : ∀ e : Expr, (1 ≤ Lp e ∧ Lp e ≤ e.size) ∧ (1 ≤ Ln e ∧ Ln e ≤ e.size)
  | .bin _ op a b => by
      have ha := L_bounds a
      have hb := L_bounds b
      simp only [Lp, Ln, Expr.size]
      refine ⟨?_, ?_⟩
      · split <;> omega
      · split
        · omega
        · split <;> omega
  | .un _ op p => by
      have hp := L_bounds p
      simp only [Lp, Ln, Expr.size]
      refine ⟨?_, ?_⟩ <;> split <;> omega
  | .quant _ q _ _ p => by
      have hp := L_bounds p
      cases q <;> simp only [Lp, Ln, Expr.size] <;> omega
  | .lit .. | .this .. | .var .. | .set .. | .range .. | .call .. | .field .. | .index .. =>
      ⟨⟨Nat.le_refl 1, Expr.size_pos _⟩, Nat.le_refl 1, Expr.size_pos _⟩

theorem Lp_pos : ∀ e : Expr, 1 ≤ Lp e := fun e => (L_bounds e).1.1
theorem Ln_pos : ∀ e : Expr, 1 ≤ Ln e := fun e => (L_bounds e).2.1
theorem Lp_le_size : ∀ e : Expr, Lp e ≤ e.size := fun e => (L_bounds e).1.2
theorem Ln_le_size : ∀ e : Expr, Ln e ≤ e.size := fun e => (L_bounds e).2.2

@[simp] theorem Lp_withTy (t : DataType) (e : Expr) : Lp (e.withTy t) = Lp e := by cases e <;> rfl
@[simp] theorem Ln_withTy (t : DataType) (e : Expr) : Ln (e.withTy t) = Ln e := by cases e <;> rfl

theorem Lp_not (t : DataType) (p : Expr) : Lp (.un t Gen.NOT_OPERATOR p) = Ln p :=
  if_pos (beq_self_eq_true _)
theorem Lp_and (t : DataType) (a b : Expr) : Lp (.bin t Gen.AND_OPERATOR a b) = Lp a + Lp b :=
  if_pos (beq_self_eq_true _)
theorem Ln_not (t : DataType) (p : Expr) : Ln (.un t Gen.NOT_OPERATOR p) = Lp p :=
  if_pos (beq_self_eq_true _)
theorem Ln_or (t : DataType) (a b : Expr) : Ln (.bin t Gen.OR_OPERATOR a b) = Ln a + Ln b :=
  if_pos (beq_self_eq_true _)
theorem Ln_implies (t : DataType) (a b : Expr) : Ln (.bin t Gen.IMPLIES_OPERATOR a b) = Lp a + Ln b :=
  (if_neg (by decide)).trans (if_pos (beq_self_eq_true _))

theorem mkNot_Lp {a e : Expr} (h : mkNot a = .ok e) : Lp e = Ln a := by
  obtain ⟨t, ta, rfl⟩ := mkUn_narrow h
  rw [Lp_not, Ln_withTy]

theorem mkAnd_Lp {a b e : Expr} (h : mkAnd a b = .ok e) : Lp e = Lp a + Lp b := by
  obtain ⟨t, ta, tb, rfl⟩ := mkBin_narrow h
  rw [Lp_and, Lp_withTy, Lp_withTy]

theorem splitHalf_Lp {v : String} {d a e : Expr} (h : splitHalf v d a = .ok e) : Lp e ≤ Lp a := by
  rcases splitHalf_ok h with ⟨_, h⟩ | ⟨_, te, _, h⟩
  · obtain ⟨td, tb, rfl⟩ := mkQuant_narrow h
    exact Nat.le_of_eq (Lp_withTy tb a)
  · obtain ⟨t, ta, tb, rfl⟩ := mkBin_narrow h
    exact Lp_pos a

theorem presplit_L : ∀ f,
    (∀ e E, presplit f e = .ok E → Lp E ≤ Lp e) ∧
    (∀ neg phi E B, splitNot f neg phi = .ok E → Lp neg ≤ B → Ln phi ≤ B → Lp E ≤ B) ∧
    (∀ qn q v d phi E B, splitQuant f qn q v d phi = .ok E → Lp qn ≤ B → (q = .all → Lp phi ≤ B) → Lp E ≤ B) := by
  intro f
  induction f with
  | zero => refine ⟨fun _ _ h => ?_, fun _ _ _ _ h => ?_, fun _ _ _ _ _ _ _ h => ?_⟩ <;> cases h
  | succ f ih =>
    obtain ⟨ihP, ihN, ihQ⟩ := ih
    refine ⟨fun e E h => ?_, fun neg phi E B h hneg hphi => ?_, fun qn q v d phi E B h hqn hphi => ?_⟩
    · rcases presplit_ok h with ⟨rfl, _⟩ | ⟨t, phi, rfl, h⟩ | ⟨t, q, x, d, phi, rfl, h⟩
      · exact Nat.le_refl _
      · exact ihN _ _ _ _ h (Nat.le_refl _) (Nat.le_of_eq (Lp_not t phi).symm)
      · exact ihQ _ _ _ _ _ _ _ h (Nat.le_refl _) (fun hq => by cases hq; exact Nat.le_refl _)
    · rcases splitNot_ok h with ⟨rfl, _⟩ | ⟨t, p, rfl, h⟩ | ⟨t, a, b, na, nb, rfl, hna, hnb, h⟩ | ⟨t, a, b, nb, rfl, hnb, h⟩ |
        ⟨t, x, d, p, np, q, rfl, hnp, _, hq, td, tb, rfl, h⟩
      · exact hneg
      · rw [Ln_not] at hphi
        exact Nat.le_trans (ihP _ _ h) hphi
      · rwa [mkAnd_Lp h, mkNot_Lp hna, mkNot_Lp hnb, ← Ln_or t]
      · rwa [mkAnd_Lp h, mkNot_Lp hnb, ← Ln_implies t]
      · have e1 : Lp (np.withTy tb) = Ln p := by rw [Lp_withTy, mkNot_Lp hnp]
        exact ihQ _ _ _ _ _ _ _ h (Nat.le_trans (Nat.le_of_eq e1) hphi) (fun _ => Nat.le_trans (Nat.le_of_eq e1) hphi)
    · rcases splitQuant_ok h with ⟨rfl, phi', hphi', ⟨t, a, b, qa, qb, rfl, hqa, hqb, h⟩ | ⟨rfl, _⟩⟩ | ⟨_, rfl⟩
      · have hle := ihP _ _ hphi'
        rw [Lp_and] at hle
        have h1 := splitHalf_Lp hqa
        have h2 := splitHalf_Lp hqb
        have hB := hphi rfl
        rw [mkAnd_Lp h]
        omega
      · exact hqn
      · exact hqn


/-- iterations the work list still needs for its entries -/
def need : List Expr → Nat
  | [] => 0
  | e :: es => (2 * Lp e - 1) + need es

theorem need_cons (e : Expr) (es : List Expr) : need (e :: es) = (2 * Lp e - 1) + need es := rfl

theorem splitLoop_fuel : ∀ (f : Nat) (stack acc : List Expr), need stack + 1 ≤ f → splitLoop f stack acc ≠ .error fuelErr := by
  intro f
  induction f with
  | zero => intro stack acc h; omega
  | succ f ih =>
    intro stack acc hf h
    rcases splitLoop_succ h with ⟨_, ⟨⟩⟩ | ⟨e, rest, rfl, ⟨_, h⟩ | ⟨_, ⟨⟩⟩ | ⟨x, hx, ⟨⟩⟩ | ⟨e', he', ⟨t, a, b, rfl, h⟩ | ⟨_, h⟩⟩⟩
    all_goals
      have hpos := Lp_pos e
      rw [need_cons] at hf
    · exact ih rest acc (by omega) h
    · exact presplit_splitFuel e hx
    · have hle := (presplit_L _).1 e _ he'
      rw [Lp_and] at hle
      have ha := Lp_pos a
      have hb := Lp_pos b
      exact ih (b :: a :: rest) acc (by rw [need_cons, need_cons]; omega) h
    · exact ih rest _ (by omega) h

/-- **C09 (termination)**: the model of `split_and` never runs out of the fuel it gives itself, for any input -/
theorem splitAnd_fuel_ok (e : Expr) : splitAnd e ≠ .error fuelErr := by
  unfold splitAnd
  refine splitLoop_fuel _ [e] [] ?_
  have := Lp_le_size e
  simp only [need]
  omega

end Hpl
