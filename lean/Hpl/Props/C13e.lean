import Hpl.Props.C13d
/-!
# C13 — an event whose predicate does not mention its own alias stores the predicate as written

`substV_noop`: replacing a variable that does not occur changes nothing and succeeds. Hence `event_alias_noop`: for an event `t as A {f}`
whose `f` has no `@A`, the stored predicate is `f` itself — the print / parse round trip of such events is that of their predicates
(`pred_print_parse_roundtrip`, C06h); the three recorded C06 findings live exactly where `f` reaches the own message through `@A`.
-/
namespace Hpl

mutual
theorem substV_noop (a : String) (other : Expr) : ∀ (e : Expr), e.containsRef a = false → substV a other e = .ok e
  | .lit .., _ => rfl
  | .this .., _ => rfl
  | .var t x, h => congrArg Except.ok (if_neg (by rw [show (a == x) = false from h]; simp))
  | .set t vs, h => by
      -- `substV` unfolds by definition (`simp [substV]` is far slower to check)
      change (substVL a other vs >>= _) = _
      rw [substVL_noop a other vs h]
      exact if_pos rfl
  | .range t lo hi x y, h => by
      change (substV a other lo >>= _) = _
      rw [substV_noop a other lo (Bool.or_eq_false_iff.1 h).1, substV_noop a other hi (Bool.or_eq_false_iff.1 h).2]
      exact if_pos ⟨rfl, rfl⟩
  | .quant t q x d b, h => by
      change (if (x == a) = true then _ else substV a other d >>= _) = _
      split
      · rfl
      · rw [substV_noop a other d (Bool.or_eq_false_iff.1 h).1, substV_noop a other b (Bool.or_eq_false_iff.1 h).2]
        exact if_pos ⟨rfl, rfl⟩
  | .un t op x, h => by
      change (substV a other x >>= _) = _
      rw [substV_noop a other x h]
      exact if_pos rfl
  | .bin t op x y, h => by
      change (substV a other x >>= _) = _
      rw [substV_noop a other x (Bool.or_eq_false_iff.1 h).1, substV_noop a other y (Bool.or_eq_false_iff.1 h).2]
      exact if_pos ⟨rfl, rfl⟩
  | .call t f as, h => by
      change (substVL a other as >>= _) = _
      rw [substVL_noop a other as h]
      exact if_pos rfl
  | .field t m n, h => by
      change (substV a other m >>= _) = _
      rw [substV_noop a other m h]
      exact if_pos rfl
  | .index t x i, h => by
      change (substV a other x >>= _) = _
      rw [substV_noop a other x (Bool.or_eq_false_iff.1 h).1, substV_noop a other i (Bool.or_eq_false_iff.1 h).2]
      exact if_pos ⟨rfl, rfl⟩
theorem substVL_noop (a : String) (other : Expr) : ∀ (es : ExprList), es.containsRef a = false → substVL a other es = .ok es
  | .nil, _ => rfl
  | .cons e es, h => by
      change (substV a other e >>= _) = _
      rw [substV_noop a other e (Bool.or_eq_false_iff.1 h).1, substVL_noop a other es (Bool.or_eq_false_iff.1 h).2]
      rfl
end

/-- **C13**: an event whose predicate does not mention the event's own alias stores exactly the predicate it was given -/
theorem event_alias_noop (n a : String) (p : Pred) (h : p.containsRef a = false) : mkSimpleEvent n (some a) p = .ok (.simple n (some a) p) := by
  unfold mkSimpleEvent
  simp only
  split
  · cases p with
    | expr e =>
      simp only [Pred.containsRef] at h
      simp [Pred.replaceVar, Expr.replaceVar, substV_noop a _ e h, bind, Except.bind, pure, Except.pure]
    | vtrue => rfl
    | vfalse => rfl
  · rfl

end Hpl
