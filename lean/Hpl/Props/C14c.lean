import Hpl.Props.C14b
/-! C14 / C09, totality proper for `split_and`: on a well-typed tree whose quantifier and call nodes pass their constructors, the
    pre-split transform never fails (no constructor call inside it, no assertion), and returns a tree of the same kind.

    The transform re-enters itself on what it has just rebuilt (`forall x in d: phi` splits the *transformed* `phi`), so the
    invariant relates a result to its input node by node: every node of the result is a node of the input or a fresh node that is
    not a variable and binds only names the input binds (`From`). -/
namespace Hpl

/-- a node the transform creates: not a variable, binding (if a quantifier) a name some quantifier of `e` binds -/
def Fresh (e n : Expr) : Prop :=
  (∀ y, isVarNamed y n = false) ∧ (∀ y, bindsName y n = true → ∃ m ∈ e.preorder, bindsName y m = true)

def From (e e' : Expr) : Prop := ∀ n ∈ e'.preorder, n ∈ e.preorder ∨ Fresh e n

theorem From.refl (e : Expr) : From e e := fun _ hn => Or.inl hn

theorem Fresh.mono {e E n : Expr} (hsub : ∀ m ∈ e.preorder, m ∈ E.preorder ∨ Fresh E m) (h : Fresh e n) : Fresh E n := by
  refine ⟨h.1, fun y hy => ?_⟩
  obtain ⟨m, hm, hb⟩ := h.2 y hy
  rcases hsub m hm with hm' | hf
  · exact ⟨m, hm', hb⟩
  · exact hf.2 y hb

theorem From.trans {e e' e'' : Expr} (h1 : From e e') (h2 : From e' e'') : From e e'' := by
  intro n hn
  rcases h2 n hn with hm | hf
  · exact h1 n hm
  · exact Or.inr (hf.mono h1)

/-- nodes of a sub-tree are nodes of the tree: stated as `From` -/
theorem From.of_sub {E e e' : Expr} (hsub : ∀ m ∈ e.preorder, m ∈ E.preorder) (h : From e e') : From E e' := by
  intro n hn
  rcases h n hn with hm | hf
  · exact Or.inl (hsub n hm)
  · exact Or.inr (hf.mono (fun m hm => Or.inl (hsub m hm)))

theorem fresh_call (e : Expr) (t : DataType) (f : String) (as : ExprList) : Fresh e (.call t f as) := ⟨fun _ => rfl, fun _ h => nomatch h⟩
theorem fresh_lit (e : Expr) (t : DataType) (tok : String) (v : LitVal) : Fresh e (.lit t tok v) := ⟨fun _ => rfl, fun _ h => nomatch h⟩

theorem From.of_mem {E e : Expr} (h : ∀ n ∈ e.preorder, n ∈ E.preorder) : From E e := fun n hn => Or.inl (h n hn)

theorem From.un {E a : Expr} {t : DataType} {op : String} (h : From E a) : From E (.un t op a) := by
  intro n hn
  rcases List.mem_cons.1 hn with rfl | hn
  · exact Or.inr ⟨fun _ => rfl, fun _ h => nomatch h⟩
  · exact h n hn

theorem From.bin {E a b : Expr} {t : DataType} {op : String} (ha : From E a) (hb : From E b) : From E (.bin t op a b) := by
  intro n hn
  rcases List.mem_cons.1 hn with rfl | hn
  · exact Or.inr ⟨fun _ => rfl, fun _ h => nomatch h⟩
  · exact (List.mem_append.1 hn).elim (ha n) (hb n)

theorem From.quant {E d b : Expr} {t : DataType} {q : Quant} {x : String} (hx : ∃ m ∈ E.preorder, bindsName x m = true)
    (hd : From E d) (hb : From E b) : From E (.quant t q x d b) := by
  intro n hn
  rcases List.mem_cons.1 hn with rfl | hn
  · refine Or.inr ⟨fun _ => rfl, fun y hy => ?_⟩
    have : y = x := by simpa [bindsName] using hy
    exact this ▸ hx
  · exact (List.mem_append.1 hn).elim (hd n) (hb n)

/-- in an accepted quantifier no node of the condition binds the variable again -/
theorem quant_no_rebind {t : DataType} {q : Quant} {x : String} {d body : Expr} (hw : WT (.quant t q x d body))
    (hr : mkQuant q x d body = .ok (.quant t q x d body)) : ∀ n ∈ body.preorder, bindsName x n = false := by
  have c := QCtx.of_WT hw hr
  obtain ⟨_, ⟨u, hu, _⟩, _⟩ := mkQuant_facts c.hd c.hb c.hnd c.hnb hr
  exact (quantBodyCheck_no_rebind x _ _ _ _ hu).1

/-- a boolean sub-formula of something that came `From` the condition of an accepted quantifier is a `PartOf` it -/
theorem partOf_of_from {t : DataType} {q : Quant} {x : String} {d body phi a : Expr} (hw : WT (.quant t q x d body))
    (hr : mkQuant q x d body = .ok (.quant t q x d body)) (hf : From body phi) (hsub : ∀ n ∈ a.preorder, n ∈ phi.preorder)
    (hty : a.ty = T.BOOL) : PartOf x body a := by
  refine ⟨hty, fun n hn => ?_⟩
  rcases hf n (hsub n hn) with hm | hfr
  · exact Or.inl hm
  · refine Or.inr ⟨Bool.eq_false_iff.2 fun hb => ?_, hfr.1 x⟩
    obtain ⟨m, hm, hbm⟩ := hfr.2 x hb
    rw [quant_no_rebind hw hr m hm] at hbm
    cases hbm

theorem splitHalf_from {E : Expr} {q : Quant} {x : String} {d body a : Expr} (c : QCtx q x d body) (pa : PartOf x body a)
    (hrd : Rebuildable d) (hra : Rebuildable a) (hx : ∃ m ∈ E.preorder, bindsName x m = true) (hd : From E d) (ha : From E a) :
    ∃ e, splitHalf x d a = .ok e ∧ e.ty = T.BOOL ∧ Rebuildable e ∧ From E e := by
  obtain ⟨e, he, hty, hr, hn⟩ := splitHalf_total c pa hrd hra
  refine ⟨e, he, hty, hr, fun n hm => ?_⟩
  rcases hn n hm with h | h | h
  · exact hd n h
  · exact ha n h
  · exact Or.inr ⟨h.1, fun y hy => (h.2 y hy) ▸ hx⟩

/-- what is shown of one call of the transform on the node `e`: it can only run out of fuel, and a result is rebuildable and
    made of nodes of `e` and fresh nodes -/
structure SplitOut (e : Expr) (res : M Expr) : Prop where
  okf : OkOrFuel res
  out : ∀ r, res = .ok r → Rebuildable r ∧ From e r

theorem SplitOut.of_ok {e r : Expr} {res : M Expr} (h : res = .ok r) (hr : Rebuildable r) (hf : From e r) : SplitOut e res := by
  subst h
  exact ⟨fun err he => (by cases he), fun r' hr' => (by cases hr'; exact ⟨hr, hf⟩)⟩

theorem SplitOut.same {e : Expr} (hrb : Rebuildable e) : SplitOut e (.ok e) := .of_ok rfl hrb (From.refl _)

theorem SplitOut.lift {E e : Expr} {res : M Expr} (h : SplitOut e res) (hf : From E e) : SplitOut E res :=
  ⟨h.okf, fun r hr => ⟨(h.out r hr).1, hf.trans (h.out r hr).2⟩⟩

theorem SplitOut.ite {e : Expr} {c : Prop} [Decidable c] {x y : M Expr} (ht : c → SplitOut e x) (he : ¬c → SplitOut e y) :
    SplitOut e (if c then x else y) := by
  split
  · exact ht ‹c›
  · exact he ‹¬c›

structure SplitTotal (f : Nat) : Prop where
  pre : ∀ e, WT e → Rebuildable e → SplitOut e (presplit f e)
  nt : ∀ t op phi, WT (.un t op phi) → Rebuildable (.un t op phi) → SplitOut (.un t op phi) (splitNot f (.un t op phi) phi)
  qt : ∀ t q x d phi, WT (.quant t q x d phi) → Rebuildable (.quant t q x d phi) →
    SplitOut (.quant t q x d phi) (splitQuant f (.quant t q x d phi) q x d phi)

theorem fuel_out {e : Expr} {res : M Expr} (h : res = .error (.internal "fuel")) : SplitOut e res := by
  subst h
  exact ⟨fun err he => (by cases he; rfl), fun r hr => (by cases hr)⟩

theorem splitTotal : ∀ f, SplitTotal f
  | 0 => ⟨fun e _ _ => fuel_out rfl, fun _ _ _ _ _ => fuel_out rfl,
          fun _ _ _ _ _ _ _ => fuel_out rfl⟩
  | f + 1 => by
    have ih := splitTotal f
    refine ⟨?_, ?_, ?_⟩
    · intro e hw hrb
      cases e with
      | un t op phi =>
        -- `presplit` unfolds by definition; `simp only [presplit]` and `split` are far slower to check
        exact .ite (fun _ => ih.nt t op phi hw hrb) fun _ => .same hrb
      | quant t q x d phi =>
        exact ih.qt t q x d phi hw hrb
      | lit _ _ _ | this _ | var _ _ | set _ _ | range _ _ _ _ _ | bin _ _ _ _ | call _ _ _ | field _ _ _ | index _ _ _ =>
        exact .same hrb
    · intro t op phi hw hrb
      have hwp := WT_un_inv hw
      cases phi with
      | un t2 op2 p =>
        refine .ite (fun _ => ?_) fun _ => ?_
        · refine (ih.pre p (WT_un_inv hwp) hrb).lift ?_
          intro n hn
          exact Or.inl (mem_un (mem_un hn))
        · exact .same hrb
      | bin t2 op2 a b =>
        refine .ite (fun hop => ?_) fun _ => ?_
        · obtain ⟨hta, htb, _⟩ := WT_logic_operands hwp (by rw [eq_of_beq hop]; decide)
          simp only [mkNot_accepts hta, mkNot_accepts htb, bind, Except.bind]
          refine .of_ok (mkAnd_accepts (a := .un T.BOOL Gen.NOT_OPERATOR a) (b := .un T.BOOL Gen.NOT_OPERATOR b) rfl rfl) ?_ ?_
          · exact hrb
          · exact .bin (.un (.of_mem fun n hn => mem_un (mem_bin_left hn))) (.un (.of_mem fun n hn => mem_un (mem_bin_right hn)))
        · refine .ite (fun hop => ?_) fun _ => ?_
          · obtain ⟨hta, htb, _⟩ := WT_logic_operands hwp (by rw [eq_of_beq hop]; decide)
            simp only [mkNot_accepts htb, bind, Except.bind]
            refine .of_ok (mkAnd_accepts (a := a) (b := .un T.BOOL Gen.NOT_OPERATOR b) hta rfl) ?_ ?_
            · exact hrb
            · exact .bin (.of_mem fun n hn => mem_un (mem_bin_left hn)) (.un (.of_mem fun n hn => mem_un (mem_bin_right hn)))
          · exact .same hrb
      | quant t2 q2 x d p =>
        cases q2 with
        | all => exact .same hrb
        | some =>
          obtain ⟨hnot, hnpx, hfa, hwQ, hrQ⟩ := forall_not_of_exists hwp hrb
          change SplitOut _ (mkNot p >>= _)
          simp only [hnot, bind, Except.bind, hnpx, if_true, hfa]
          refine (ih.qt _ _ _ _ _ hwQ hrQ).lift (.quant ⟨.quant t2 .some x d p, mem_un List.mem_cons_self, by simp [bindsName]⟩
            (.of_mem fun n hn => mem_un (mem_quant_dom hn)) (.un (.of_mem fun n hn => mem_un (mem_quant_body hn))))
      | lit _ _ _ | this _ | var _ _ | set _ _ | range _ _ _ _ _ | call _ _ _ | field _ _ _ | index _ _ _ =>
        exact .same hrb
    · intro t q x d phi hw hrb
      cases q with
      | some => exact .same hrb
      | all =>
        have hwphi := (WT_quant_inv hw).2
        have hp := ih.pre phi hwphi hrb.2.2
        have c := QCtx.of_WT hw hrb.1
        change SplitOut _ (presplit f phi >>= _)
        cases hres : presplit f phi with
        | error err =>
          have := hp.okf err hres
          subst this
          exact fuel_out rfl
        | ok phi' =>
          obtain ⟨hrphi', hfrom⟩ := hp.out phi' hres
          have hwphi' := (splitTyped f).pre _ _ hres hwphi
          simp only [bind, Except.bind]
          split
          · rename_i t1 op a b
            split
            · rename_i hop
              obtain ⟨hta, htb, _⟩ := WT_logic_operands hwphi' (by rw [eq_of_beq hop]; decide)
              have pa : PartOf x phi a := partOf_of_from hw hrb.1 hfrom
                (fun n hn => mem_bin_left hn) hta
              have pb : PartOf x phi b := partOf_of_from hw hrb.1 hfrom
                (fun n hn => mem_bin_right hn) htb
              have hx : ∃ m ∈ (Expr.quant t .all x d phi).preorder, bindsName x m = true := ⟨_, List.mem_cons_self, by simp [bindsName]⟩
              have hd : From (.quant t .all x d phi) d := .of_mem fun n hn => mem_quant_dom hn
              have hphi : From (.quant t .all x d phi) (.bin t1 op a b) := From.of_sub (fun m hm => mem_quant_body hm) hfrom
              obtain ⟨qa, hqa, htqa, hrqa, hfa⟩ :=
                splitHalf_from c pa hrb.2.1 hrphi'.1 hx hd (hphi.trans (.of_mem fun n hn => mem_bin_left hn))
              obtain ⟨qb, hqb, htqb, hrqb, hfb⟩ :=
                splitHalf_from c pb hrb.2.1 hrphi'.2 hx hd (hphi.trans (.of_mem fun n hn => mem_bin_right hn))
              simp only [hqa, hqb]
              exact .of_ok (mkAnd_accepts htqa htqb) ⟨hrqa, hrqb⟩ (.bin hfa hfb)
            · exact .same hrb
          · exact .same hrb

/-- **the pre-split transform is total**: with the fuel `split_and` gives it, on a well-typed rebuildable tree, it returns a
    well-typed rebuildable tree -/
theorem presplit_total (e : Expr) (hw : WT e) (hrb : Rebuildable e) :
    ∃ r, presplit (splitFuel e) e = .ok r ∧ WT r ∧ Rebuildable r := by
  have h := (splitTotal (splitFuel e)).pre e hw hrb
  cases hres : presplit (splitFuel e) e with
  | error err =>
    have := h.okf err hres
    subst this
    exact absurd hres (presplit_splitFuel e)
  | ok r => exact ⟨r, rfl, (splitTyped _).pre _ _ hres hw, (h.out r hres).1⟩

/-- the work list: the only failures are running out of fuel and the ValueError raised for a conjunct that is literally `False`, and
    the conjuncts it returns are again well-typed trees whose quantifier and call nodes pass their constructors -/
theorem splitLoop_out : ∀ (f : Nat) (stack acc : List Expr), (∀ e ∈ stack, WT e ∧ Rebuildable e) → (∀ e ∈ acc, WT e ∧ Rebuildable e) →
    (∀ err, splitLoop f stack acc = .error err → err = fuelErr ∨ err = .value) ∧
    (∀ l, splitLoop f stack acc = .ok l → ∀ e ∈ l, WT e ∧ Rebuildable e)
  | 0, _, _, _, _ => ⟨fun err h => by cases h; exact Or.inl rfl, fun l h => nomatch h⟩
  | f + 1, stack, acc, hs, ha => by
      rcases splitLoop_succ (rfl : splitLoop (f + 1) stack acc = _) with ⟨rfl, hR⟩ | ⟨e, rest, rfl, h⟩
      · rw [hR]
        exact ⟨fun _ h => (nomatch h), fun l h => by cases h; exact ha⟩
      · obtain ⟨he, hst⟩ := List.forall_mem_cons.1 hs
        obtain ⟨r, hr, hwr, hrr⟩ := presplit_total e he.1 he.2
        rcases h with ⟨_, hR⟩ | ⟨_, hR⟩ | ⟨x, hx, _⟩ | ⟨e', he', h⟩
        · rw [← hR]
          exact splitLoop_out f rest acc hst ha
        · rw [hR]
          exact ⟨fun err h => by cases h; exact Or.inr rfl, fun l h => nomatch h⟩
        · rw [hr] at hx
          cases hx
        · rw [hr] at he'
          cases he'
          rcases h with ⟨t, a, b, rfl, hR⟩ | ⟨_, hR⟩
          · rw [← hR]
            exact splitLoop_out f _ acc (List.forall_mem_cons.2 ⟨⟨(WT_bin_inv hwr).2, hrr.2⟩,
              List.forall_mem_cons.2 ⟨⟨(WT_bin_inv hwr).1, hrr.1⟩, hst⟩⟩) ha
          · rw [← hR]
            exact splitLoop_out f rest _ hst (List.forall_mem_append.2 ⟨ha, List.forall_mem_singleton.2 ⟨hwr, hrr⟩⟩)

/-- **C14 / C09, `split_and` is total (expressions)**: on a well-typed tree whose quantifier and call nodes pass their constructors,
    `split_and` returns a list of conjuncts, or reports unsatisfiability (the ValueError class, raised exactly for a conjunct that is
    the literal `False`: `splitAnd_value_only_false`); no constructor call inside it fails, no assertion fires, the fuel suffices -/
theorem splitAnd_total (e : Expr) (hw : WT e) (hrb : Rebuildable e) : (∃ l, splitAnd e = .ok l) ∨ splitAnd e = .error .value := by
  cases h : splitAnd e with
  | ok l => exact Or.inl ⟨l, rfl⟩
  | error err =>
    rcases (splitLoop_out _ [e] [] (List.forall_mem_singleton.2 ⟨hw, hrb⟩) (by simp)).1 err h with rfl | rfl
    · exact absurd h (splitAnd_fuel_ok e)
    · exact Or.inr rfl

/-- ... in particular on everything the parser builds -/
theorem splitAnd_total_parsed (r : Raw) (e : Expr) (h : build r = .ok e) : (∃ l, splitAnd e = .ok l) ∨ splitAnd e = .error .value :=
  splitAnd_total e (build_WT r e h) (build_rebuildable r e h)

/-- the conjuncts `split_and` returns are again well-typed trees whose quantifier and call nodes pass their constructors … -/
theorem splitAnd_good (e : Expr) (ps : List Expr) (h : splitAnd e = .ok ps) (hw : WT e) (hrb : Rebuildable e) :
    ∀ p ∈ ps, WT p ∧ Rebuildable p :=
  (splitLoop_out _ [e] [] (List.forall_mem_singleton.2 ⟨hw, hrb⟩) (by simp)).2 ps h

/-- … so the rewriting functions compose: every conjunct of `split_and` of a parser output can be handed to `refactor_reference`
    (for any alias) and to `split_and` again, and neither fails -/
theorem refactor_after_split (r : Raw) (e : Expr) (ps : List Expr) (alias : String) (h : build r = .ok e) (hs : splitAnd e = .ok ps) :
    ∀ p ∈ ps, (∃ pr, refactorExpr p alias = .ok pr) ∧ ((∃ l, splitAnd p = .ok l) ∨ splitAnd p = .error .value) := by
  intro p hp
  obtain ⟨hw, hrb⟩ := splitAnd_good e ps hs (build_WT r e h) (build_rebuildable r e h) p hp
  exact ⟨refactorExpr_total p alias hw hrb, splitAnd_total p hw hrb⟩

/-- **`split_and` on predicates**: for the predicate made of any tree the parser builds -/
theorem splitAndPred_total_parsed (r : Raw) (e : Expr) (p : Pred) (h : build r = .ok e) (hp : mkPred e = .ok p) :
    (∃ l, splitAndPred p = .ok l) ∨ splitAndPred p = .error .value := by
  obtain ⟨e', he', _, rfl⟩ := mkPred_ok hp
  have hw := build_WT r e h
  exact splitAnd_total e' (castE_WT he' hw) (castE_rebuildable he' hw (build_rebuildable r e h))

/-- both halves `refactor_reference` returns are again well-typed and rebuildable: its results can be rewritten further -/
theorem refactorExpr_good (e : Expr) (alias : String) (r : Expr × Expr) (h : refactorExpr e alias = .ok r) (hw : WT e) (hrb : Rebuildable e) :
    (WT r.1 ∧ Rebuildable r.1) ∧ (WT r.2 ∧ Rebuildable r.2) := by
  have h1 := refactorExpr_WT e alias r h hw
  have h2 := (refactor_rebuildable alias _).1 e r hw hrb h
  exact ⟨⟨h1.1, h2.1⟩, ⟨h1.2, h2.2⟩⟩

/-- the hypotheses are met and the transform does work: `not (exists i in xs: (@i > 0 or b))` becomes two conjuncts -/
example : ∃ e l, build (.un "not" (.quant .some "i" (.field .this "xs") (.bin "or" (.bin ">" (.var "i") (.lit "0" (.int 0))) (.field .this "b")))) = .ok e ∧
    splitAnd e = .ok l ∧ l.length = 2 := by
  refine ⟨_, _, by rfl, by rfl, by rfl⟩

end Hpl
