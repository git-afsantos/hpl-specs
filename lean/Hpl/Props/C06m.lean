import Hpl.Props.C01e
/-!
# C06 — every parser output whose own-field and function names are not reserved round-trips

`Raw.printable` (the hypothesis of the round-trip theorems) has a structural part - what shapes the parser can produce - and a naming
part.  Here the structural part is discharged for *every* parser output: if the grammar derives a tree (equivalently, by
`parse_iff_renders`, if the parser returns it) and its own-field and function names are not among the nine words that open an atom
or a logic operand (`Raw.goodNames`), the tree is printable.  Hence `parse_print_parse`: the parser applied to the printed tokens of
its own output returns that output - for every token sequence, with exactly the exception recorded as known finding
`C06-own-field-logic-keyword-unparseable` (and its alias-normalised siblings).
-/
namespace Hpl

theorem decimalValue_kind {s : String} {v : LitVal} (h : decimalValue s = some v) : (∃ i, v = .int i) ∨ (∃ q, v = .flt q) := by
  unfold decimalValue at h
  rcases ite_eq h with ⟨_, h⟩ | ⟨_, h⟩
  · obtain ⟨n, _, rfl⟩ := Option.map_eq_some_iff.1 h
    exact .inl ⟨_, rfl⟩
  · split at h
    split at h
    rcases ite_eq h with ⟨_, h⟩ | ⟨_, h⟩
    · cases h
    · exact .inr ⟨_, (Option.some.inj h).symm⟩

theorem decimalValue_notConst {s : String} {v : LitVal} (h : decimalValue s = some v) : (numberConstant s).isSome = false := by
  cases hc : (numberConstant s).isSome with
  | false => rfl
  | true => rcases numberConstant_some hc with rfl | rfl | rfl | rfl <;> cases h

theorem litOk_num {s : String} {v : LitVal} (h : decimalValue s = some v) : litOk s v = true := by
  have hn := decimalValue_notConst h
  rcases decimalValue_kind h with ⟨i, rfl⟩ | ⟨q, rfl⟩ <;> simp [litOk, hn, h]

theorem const_kind {s : String} {v : LitVal} (h : numberConstant s = some v) : (∃ q, v = .flt q) ∨ v = .inf ∨ v = .nan := by
  rcases ite_eq h with ⟨_, h⟩ | ⟨_, h⟩
  · exact .inr (.inl (Option.some.inj h).symm)
  rcases ite_eq h with ⟨_, h⟩ | ⟨_, h⟩
  · exact .inr (.inr (Option.some.inj h).symm)
  rcases ite_eq h with ⟨_, h⟩ | ⟨_, h⟩
  · exact .inl ⟨_, (Option.some.inj h).symm⟩
  rcases ite_eq h with ⟨_, h⟩ | ⟨_, h⟩ <;> cases h
  exact .inl ⟨_, rfl⟩

theorem litOk_const {s : String} {v : LitVal} (h : numberConstant s = some v) : litOk s v = true := by
  have hs : (numberConstant s).isSome = true := by rw [h]; rfl
  have hc : isCName s = true := by
    rcases numberConstant_some hs with rfl | rfl | rfl | rfl <;> decide
  rcases const_kind h with ⟨q, rfl⟩ | rfl | rfl <;> simp [litOk, hs, h, hc]

theorem rawSnoc_printable : ∀ (es : RawList) (e : Raw), es.printable = true → e.printable = true → (rawSnoc es e).printable = true
  | .nil, e, _, he => by simp [rawSnoc, RawList.printable, he]
  | .cons x xs, e, hes, he => by
      simp only [RawList.printable, Bool.and_eq_true] at hes
      simp only [rawSnoc, RawList.printable, Bool.and_eq_true]
      exact ⟨hes.1, rawSnoc_printable xs e hes.2 he⟩

theorem rawSnoc_goodNames : ∀ (es : RawList) (e : Raw), (rawSnoc es e).goodNames = (es.goodNames && e.goodNames)
  | .nil, e => by simp [rawSnoc, RawList.goodNames]
  | .cons x xs, e => by simp [rawSnoc, RawList.goodNames, rawSnoc_goodNames xs e, Bool.and_assoc]

theorem rawSnoc_ne_nil : ∀ (es : RawList) (e : Raw), rawSnoc es e ≠ .nil
  | .nil, _ => by simp [rawSnoc]
  | .cons _ _, _ => by simp [rawSnoc]

theorem isAtomic_of_isRef {e : Raw} (h : e.isRef = true) : e.isAtomic = true := by
  cases e <;> first | rfl | exact h

def Shape (k : Nat) (e : Raw) : Prop :=
  e.printable = true ∧ (9 ≤ k → k ≤ 10 → e.isAtomic = true) ∧ (k = 10 → e.isRef = true) ∧ (k = 11 → ∃ es, e = .set es ∧ es ≠ .nil)

theorem Shape.low {k : Nat} {e : Raw} (hk : k < 9) (hp : e.printable = true) : Shape k e :=
  ⟨hp, fun h9 => by omega, fun h => by omega, fun h => by omega⟩

theorem Shape.atom {e : Raw} (hp : e.printable = true) (ha : e.isAtomic = true) : Shape 9 e :=
  ⟨hp, fun _ _ => ha, fun h => by omega, fun h => by omega⟩

theorem Shape.ref {e : Raw} (hp : e.printable = true) (hr : e.isRef = true) : Shape 10 e :=
  ⟨hp, fun _ _ => isAtomic_of_isRef hr, fun _ => hr, fun h => by omega⟩

theorem Shape.members {es : RawList} (hp : (Raw.set es).printable = true) (hne : es ≠ .nil) : Shape 11 (.set es) :=
  ⟨hp, fun h9 h10 => by omega, fun h => by omega, fun _ => ⟨es, rfl, hne⟩⟩

theorem printable_set {es : RawList} (hne : es ≠ .nil) : (Raw.set es).printable = es.printable := by
  cases es with
  | nil => exact absurd rfl hne
  | cons x xs => simp only [Raw.printable, Bool.true_and]

/-- what the grammar derives is printable, as far as its shape goes: only names can stand in the way -/
theorem renders_printable {k : Nat} {e : Raw} {ts : List Tok} (h : Renders k e ts) : e.goodNames = true →
    e.printable = true ∧ (9 ≤ k → k ≤ 10 → e.isAtomic = true) ∧ (k = 10 → e.isRef = true) ∧
    (k = 11 → ∃ es, e = .set es ∧ es ≠ .nil) := by
  show e.goodNames = true → Shape k e
  induction h with
  | up hk _ _ ih => exact fun hg => .low hk (ih hg).1
  | @binL k a b ta tb t hl ht _ _ iha ihb =>
    intro hg
    simp only [Raw.goodNames, Bool.and_eq_true] at hg
    have hk : k < 9 := by simp only [isLoopLevel, Bool.or_eq_true, beq_iff_eq] at hl; omega
    refine .low hk ?_
    simp only [Raw.printable, Bool.and_eq_true]
    exact ⟨⟨by rw [opTest_level ht]; rfl, (iha hg.1).1⟩, (ihb hg.2).1⟩
  | rel t ht _ _ iha ihb =>
    intro hg
    simp only [Raw.goodNames, Bool.and_eq_true] at hg
    refine .low (by decide) ?_
    simp only [Raw.printable, Bool.and_eq_true]
    exact ⟨⟨by rw [relTest_level ht]; rfl, (iha hg.1).1⟩, (ihb hg.2).1⟩
  | not t _ _ iha =>
    intro hg
    simp only [Raw.goodNames] at hg
    exact .low (by decide) (by simp [Raw.printable, (iha hg).1])
  | quant t v kin c _ _ hvn _ _ _ _ ihd ihb =>
    intro hg
    simp only [Raw.goodNames, Bool.and_eq_true] at hg
    refine .low (by decide) ?_
    simp only [Raw.printable, Bool.and_eq_true]
    exact ⟨⟨⟨hvn, (ihd hg.1).1⟩, (ihd hg.1).2.1 (by decide) (by decide)⟩, (ihb hg.2).1⟩
  | neg t _ _ iha =>
    intro hg
    simp only [Raw.goodNames] at hg
    exact .low (by decide) (by simp [Raw.printable, (iha hg).1])
  | paren o c _ _ _ ih => exact fun hg => .low (by decide) (ih hg).1
  | str t _ => exact fun _ => .atom (by simp [Raw.printable, litOk]) rfl
  | num t v _ hv => exact fun _ => .atom (by simp [Raw.printable, litOk_num hv]) rfl
  | true_ t _ _ => exact fun _ => .atom (by simp [Raw.printable, litOk]) rfl
  | false_ t _ _ => exact fun _ => .atom (by simp [Raw.printable, litOk]) rfl
  | const t v _ _ hv => exact fun _ => .atom (by simp [Raw.printable, litOk_const hv]) rfl
  | call f o c _ _ _ _ _ iha =>
    intro hg
    simp only [Raw.goodNames, RawList.goodNames, Bool.and_eq_true, Bool.and_true] at hg
    refine .atom ?_ rfl
    simp only [Raw.printable, Bool.and_eq_true]
    exact ⟨hg.1, (iha hg.2).1⟩
  | range o kto c _ _ _ _ _ ihl ihh =>
    intro hg
    simp only [Raw.goodNames, Bool.and_eq_true] at hg
    refine .atom ?_ rfl
    simp only [Raw.printable, Bool.and_eq_true]
    exact ⟨(ihl hg.1).1, (ihh hg.2).1⟩
  | setOne _ ihe =>
    intro hg
    simp only [Raw.goodNames, RawList.goodNames, Bool.and_true] at hg
    exact .members (by simp [Raw.printable, RawList.printable, (ihe hg).1]) (by simp)
  | @setMore es ts e te c _ _ _ ihs ihe =>
    intro hg
    simp only [Raw.goodNames, rawSnoc_goodNames, Bool.and_eq_true] at hg
    obtain ⟨hs, _, _, hes⟩ := ihs (by simpa [Raw.goodNames] using hg.1)
    obtain ⟨_, h1, h2⟩ := hes rfl
    cases h1
    rw [printable_set h2] at hs
    have hne := rawSnoc_ne_nil es e
    exact .members (by rw [printable_set hne]; exact rawSnoc_printable es e hs (ihe hg.2).1) hne
  | set o c _ _ _ ihs => exact fun hg => .atom (ihs hg).1 rfl
  | var t _ => exact fun _ => .ref rfl rfl
  | own t _ _ =>
    intro hg
    simp only [Raw.goodNames] at hg
    exact .ref (by simpa [Raw.printable] using hg) rfl
  | @field m tm d n _ _ hn _ ih =>
    intro hg
    have hgm : m.goodNames = true := by
      cases m <;> first | rfl | simpa [Raw.goodNames] using hg
    have hm := (ih hgm).2.2.1 rfl
    have hpm := (ih hgm).1
    refine .ref ?_ ?_ <;>
      (cases m <;> simp_all [Raw.printable, Raw.isRef])
  | index o c _ _ _ _ iha ihi =>
    intro hg
    simp only [Raw.goodNames, Bool.and_eq_true] at hg
    have ha := iha hg.1
    refine .ref ?_ (by simpa [Raw.isRef] using ha.2.2.1 rfl)
    simp only [Raw.printable, Bool.and_eq_true]
    exact ⟨⟨ha.2.2.1 rfl, ha.1⟩, (ihi hg.2).1⟩
  | ref _ ih => exact fun hg => .atom (ih hg).1 (isAtomic_of_isRef ((ih hg).2.2.1 rfl))

/-- **C06, for every parser output**: whatever token sequence was parsed, the parser applied to the printed tokens of the result
    returns the result again - provided no own field or function of it is named like one of the nine words that open an atom or a
    logic operand (`not forall exists True False INF NAN PI E`). -/
theorem parse_print_parse {ts : List Tok} {e : Raw} (h : parseExpressionToks ts = .ok e) (hg : e.goodNames = true) :
    e.printable = true ∧ parseExpressionToks e.toks = .ok e := by
  have hp := (renders_printable (parse_sound h) hg).1
  exact ⟨hp, roundtrip_from_completeness e hp⟩

theorem parse_print_parse_pred {ts : List Tok} {e : Raw} (h : parsePredicateToks ts = .ok e) (hg : e.goodNames = true) :
    e.printable = true ∧ parsePredicateToks (symT "{" :: (e.toks ++ [symT "}"])) = .ok e := by
  obtain ⟨o, mid, c, _, _, _, hr⟩ := parse_predicate_sound h
  have hp := (renders_printable hr hg).1
  exact ⟨hp, parse_predicate_complete (printed_is_rendering e hp) (symT "{") (symT "}") (by decide) (by decide)⟩

end Hpl
