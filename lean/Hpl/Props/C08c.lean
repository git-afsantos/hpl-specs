import Hpl.Props.C08b
import Hpl.Lemmas.Dedup
/-!
# C08 — the recursion of `simplify` over the whole term

`soundAt`: every result of the model of `hpl.rewrite._simplify` preserves the value of its input under every
valuation on which the input evaluates (`Pres`), by induction on the fuel of the mutually recursive model functions
(`simp`, `simpList`, `simpNeg`, `simpBinop`, `simpMultiplication`, `preBinop`, `simpCall`).  The folding of built-in
function calls is isolated in the hypothesis `CallFoldSound` (see there).
-/
namespace Hpl
section
variable (opq : Opaque)

/-! ## what the generated operator table says about the operators that are flipped and re-associated -/

theorem findBin_comm {op : String} {d : BinDef} (h : findBin op = some d) (hc : d.comm = true) :
    op = "+" ∨ op = "*" ∨ op = "iff" ∨ op = "or" ∨ op = "and" ∨ op = "=" ∨ op = "!=" := by
  obtain ⟨hm, rfl⟩ := findBin_token h
  have := (G2_commutative_flags d hm).1 hc
  simp only [List.mem_cons, List.not_mem_nil, or_false] at this
  exact this

theorem findBin_assoc {op : String} {d : BinDef} (h : findBin op = some d) (hc : d.assoc = true) :
    op = "+" ∨ op = "*" ∨ op = "iff" ∨ op = "or" ∨ op = "and" := by
  obtain ⟨hm, rfl⟩ := findBin_token h
  have := (G2_associative_flags d hm).1 hc
  simp only [List.mem_cons, List.not_mem_nil, or_false] at this
  exact this

/-- a non-commutative operator with an entry in `INVERSE_OPERATORS` is one of the four order comparisons -/
theorem findBin_inverse {op inv : String} {d : BinDef} (h : findBin op = some d) (hc : d.comm = false)
    (hi : Gen.inverseOps.lookup op = some inv) :
    (op, inv) = ("<", ">") ∨ (op, inv) = (">", "<") ∨ (op, inv) = ("<=", ">=") ∨ (op, inv) = (">=", "<=") := by
  obtain ⟨hm, rfl⟩ := findBin_token h
  have : ∀ d ∈ Gen.binOps, d.comm = false → ∀ p ∈ Gen.inverseOps, p.1 = d.token →
      (d.token, p.2) = ("<", ">") ∨ (d.token, p.2) = (">", "<") ∨ (d.token, p.2) = ("<=", ">=") ∨ (d.token, p.2) = (">=", "<=") := by decide
  exact this d hm hc _ (lookup_mem hi) rfl

/-! ## the re-association step of `_pre_simplify_binop` -/

/-- regrouping the (up to four) operands of an associative-commutative operator, re-simplifying the new groups with a
    sound simplifier `sb`, preserves the value -/
theorem reassoc_sound {op : String} (C : ACCarrier op) {sb : Expr → M Expr} (hsb : ∀ e r, sb e = .ok r → Pres opq r e)
    {t : DataType} {a b r : Expr} (h : reassoc op sb a b = .ok r) : Pres opq r (.bin t op a b) := by
  intro ρ v hv
  obtain ⟨va, vb, hea, heb, rfl⟩ := (ac_eval opq C).1 hv
  haveI : Std.Associative C.g := ⟨C.assoc⟩
  haveI : Std.Commutative C.g := ⟨C.comm⟩
  have re : ∀ {x y n r : Expr} {p q : C.α}, mkBin op x y = .ok n → sb n = .ok r → eval opq ρ x = .ok (C.inj p) →
      eval opq ρ y = .ok (C.inj q) → eval opq ρ r = .ok (C.inj (C.g p q)) :=
    fun hn hr hx hy => hsb _ _ hr ρ _ (ac_mk opq C hn hx hy)
  have parts : ∀ {z z1 z2 : Expr} {tz : DataType} {w : C.α}, z = .bin tz op z1 z2 → eval opq ρ z = .ok (C.inj w) →
      ∃ p1 p2, eval opq ρ z1 = .ok (C.inj p1) ∧ eval opq ρ z2 = .ok (C.inj p2) ∧ w = C.g p1 p2 := by
    intro z z1 z2 tz w hs hz
    cases hs
    obtain ⟨p1, p2, h1, h2, e⟩ := (ac_eval opq C).1 hz
    exact ⟨p1, p2, h1, h2, C.inj_inj _ _ e⟩
  -- after the first swap the four operands and the two groups still make up the same value
  have first : ∀ {ta tb : DataType} {a1 a2 b1 b2 x1 x2 y1 y2 a' b' : Expr}, a = .bin ta op a1 a2 → b = .bin tb op b1 b2 →
      ReassocFirst op sb a1 a2 b1 b2 a b x1 x2 y1 y2 a' b' →
      ∃ u1 u2 w1 w2, eval opq ρ x1 = .ok (C.inj u1) ∧ eval opq ρ x2 = .ok (C.inj u2) ∧ eval opq ρ y1 = .ok (C.inj w1) ∧
        eval opq ρ y2 = .ok (C.inj w2) ∧ eval opq ρ a' = .ok (C.inj (C.g u1 u2)) ∧ eval opq ρ b' = .ok (C.inj (C.g w1 w2)) ∧
        C.g (C.g u1 u2) (C.g w1 w2) = C.g va vb := by
    intro ta tb a1 a2 b1 b2 x1 x2 y1 y2 a' b' hsa hsb' hf
    obtain ⟨p1, p2, h1, h2, rfl⟩ := parts hsa hea
    obtain ⟨q1, q2, h3, h4, rfl⟩ := parts hsb' heb
    cases hf with
    | swap hna hra hnb hrb => exact ⟨p1, q1, q2, p2, h1, h3, h4, h2, re hna hra h1 h3, re hnb hrb h4 h2, by ac_rfl⟩
    | keep => exact ⟨p1, p2, q1, q2, h1, h2, h3, h4, hea, heb, rfl⟩
  cases reassoc_ok h with
  | keep hm => exact ac_mk opq C hm hea heb
  | left hsa hna hra hm =>
    obtain ⟨p1, p2, h1, h2, rfl⟩ := parts hsa hea
    rw [ac_mk opq C hm (re hna hra h1 heb) h2, C.assoc, C.comm vb, ← C.assoc]
  | right hsb' hnb hrb hm =>
    obtain ⟨q1, q2, h3, h4, rfl⟩ := parts hsb' heb
    rw [ac_mk opq C hm h3 (re hnb hrb hea h4), ← C.assoc, C.comm q1, C.assoc]
  | both hsa hsb' hf hm =>
    obtain ⟨u1, u2, w1, w2, -, -, -, -, g5, g6, geq⟩ := first hsa hsb' hf
    rw [ac_mk opq C hm g5 g6, geq]
  | bothSwap hsa hsb' hf hna hra hnb hrb hm =>
    obtain ⟨u1, u2, w1, w2, g1, g2, g3, g4, -, -, geq⟩ := first hsa hsb' hf
    rw [ac_mk opq C hm (re hna hra g3 g1) (re hnb hrb g2 g4), ← geq]
    congr 2; ac_rfl

/-! ## `_simplify_multiplication` -/

theorem mul_ok {x y v : Value} (h : binOp "*" x y = .ok v) : ∃ qx qy, x = Value.num qx ∧ y = Value.num qy ∧ v = Value.num (qx * qy) :=
  arith_ok binOp_mul h

theorem cancel_div {ρ : Env} {ta : DataType} {a b x y : Expr} {qa qb : Rat} (hd : a = .bin ta "/" x y) (hyb : (y == b) = true)
    (ha : eval opq ρ a = .ok (Value.num qa)) (hb : eval opq ρ b = .ok (Value.num qb)) : eval opq ρ x = .ok (Value.num (qa * qb)) := by
  cases hd
  cases eq_of_beq hyb
  obtain ⟨u, w, hu, hw, hdiv⟩ := (eval_bin_ok opq).1 ha
  obtain ⟨qu, qw, rfl, rfl, hne, hq⟩ := div_ok hdiv
  rw [hb] at hw
  cases num_inj _ _ (Except.ok.inj hw)
  cases num_inj _ _ hq
  rw [hu, Rat.div_mul_cancel hne]

theorem simpMultiplication_sound (f : Nat) (ihN : ∀ e a r, simpNeg f e a = .ok r → ∀ t, Pres opq r (.un t "-" a))
    (t : DataType) (a b r : Expr) (h : simpMultiplication (f + 1) (.bin t "*" a b) a b = .ok r) : Pres opq r (.bin t "*" a b) := by
  intro ρ v hv
  obtain ⟨x, y, hx, hy, hop⟩ := (eval_bin_ok opq).1 hv
  obtain ⟨qx, qy, rfl, rfl, rfl⟩ := mul_ok hop
  cases simpMultiplication_ok h with
  | rightOne hb hc hr =>
    rw [hr, isOne_num (litVal_toRat opq hb hy) hc, Rat.mul_one]
    exact hx
  | rightZero hb hc hr =>
    cases isZero_num (litVal_toRat opq hb hy) hc
    rw [hr, Rat.mul_zero]
    exact hy
  | leftOne ha hc hr =>
    rw [hr, isOne_num (litVal_toRat opq ha hx) hc, Rat.one_mul]
    exact hy
  | leftZero ha hc hr =>
    cases isZero_num (litVal_toRat opq ha hx) hc
    rw [hr, Rat.zero_mul]
    exact hx
  | fold ha hb hz hr =>
    rw [litNumber_eval opq hr ρ]
    exact pyArith_value (litVal_toRat opq ha hx) (litVal_toRat opq hb hy) hz
  | minusOne hb hc hm h =>
    rw [isMinusOne_num (litVal_toRat opq hb hy) hc, Rat.mul_neg, Rat.mul_one]
    exact ihN _ _ _ h _ ρ _ (mkUn_ok_eval opq hm hx (unOp_neg_num qx))
  | cancelLeft hd hc => exact cancel_div opq hd hc hx hy
  | cancelRight hd hc =>
    rw [Rat.mul_comm]
    exact cancel_div opq hd hc hy hx
  | same hr =>
    rw [hr]
    exact hv

/-! ## equivalence -/

theorem iffRule_sound {simpf : Expr → M Expr} (hS : ∀ e r, simpf e = .ok r → Pres opq r e) {t : DataType} {a b r : Expr}
    (h : (if (a == b) = true then pure trueLit
          else if obviouslyDifferent a b = true then pure falseLit
          else do
            let i1 ← mkImplies a b; let i2 ← mkImplies b a
            let c ← mkAnd i1 i2
            simpf c : M Expr) = .ok r) : Pres opq r (.bin t "iff" a b) := by
  intro ρ v hv
  obtain ⟨vx, vy, hx, hy, hb⟩ := (eval_bin_ok opq).1 hv
  obtain ⟨x, y, rfl, rfl, rfl⟩ := (bool_spec binOp_iff _ _ _).1 hb
  rcases ite_eq h with ⟨heq, h⟩ | ⟨-, h⟩
  · cases h
    cases eq_of_beq heq
    rw [hx] at hy
    cases bool_inj _ _ (Except.ok.inj hy)
    cases x <;> rfl
  rcases ite_eq h with ⟨hd, h⟩ | ⟨-, h⟩
  · cases h
    cases obviouslyDifferent_bool opq a b hd ρ x y ((truth_eq_some opq).2 hx) ((truth_eq_some opq).2 hy)
    cases y <;> rfl
  · obtain ⟨i1, h1, h⟩ := bind_ok h
    obtain ⟨i2, h2, h⟩ := bind_ok h
    obtain ⟨c, hc, h⟩ := bind_ok h
    have e1 : eval opq ρ i1 = .ok (Value.bool (!x || y)) :=
      mkBin_ok_eval opq h1 hx hy ((bool_spec binOp_implies _ _ _).2 ⟨x, y, rfl, rfl, rfl⟩)
    have e2 : eval opq ρ i2 = .ok (Value.bool (!y || x)) :=
      mkBin_ok_eval opq h2 hy hx ((bool_spec binOp_implies _ _ _).2 ⟨y, x, rfl, rfl, rfl⟩)
    have ec : eval opq ρ c = .ok (Value.bool ((!x || y) && (!y || x))) :=
      mkBin_ok_eval opq hc e1 e2 ((bool_spec binOp_and _ _ _).2 ⟨_, _, rfl, rfl, rfl⟩)
    have : ((!x || y) && (!y || x)) = (x == y) := by cases x <;> cases y <;> rfl
    rw [this] at ec
    exact hS _ _ h ρ _ ec

/-! ## set literals: dropping syntactically repeated members -/

/-- the primitive a member evaluates to (junk where it does not evaluate to one) -/
def primOf (ρ : Env) (e : Expr) : Prim := match eval opq ρ e with | .ok (.prim p) => p | _ => default

theorem primOf_eq {ρ : Env} {e : Expr} {p : Prim} (h : eval opq ρ e = .ok (.prim p)) : primOf opq ρ e = p := by
  rw [primOf, h]

theorem evalPrims_inv {ρ : Env} : ∀ {l : List Expr} {xs : List Value} {ps : List Prim},
    evalList opq ρ (ExprList.ofList l) = .ok xs → xs.mapM asPrim = .ok ps →
    (∀ e ∈ l, eval opq ρ e = .ok (.prim (primOf opq ρ e))) ∧ ps = l.map (primOf opq ρ)
  | [], xs, ps, h1, h2 => by
      cases h1
      cases h2
      exact ⟨fun _ h => (by cases h), rfl⟩
  | e :: l, xs, ps, h1, h2 => by
      obtain ⟨x, xs', hx, hxs, rfl⟩ := (evalList_cons_ok opq).1 h1
      rw [List.mapM_cons] at h2
      obtain ⟨p, hp, h2⟩ := bind_ok h2
      obtain ⟨ps', hps, h2⟩ := bind_ok h2
      cases h2
      have hxp := (asPrim_ok).1 hp
      subst hxp
      obtain ⟨ih1, ih2⟩ := evalPrims_inv hxs hps
      refine ⟨?_, ?_⟩
      · intro e' he'
        rcases List.mem_cons.1 he' with rfl | hm
        · rw [primOf_eq opq hx]; exact hx
        · exact ih1 e' hm
      · rw [List.map_cons, primOf_eq opq hx, ih2]

theorem evalPrims_intro {ρ : Env} : ∀ {l : List Expr}, (∀ e ∈ l, eval opq ρ e = .ok (.prim (primOf opq ρ e))) →
    (do let xs ← evalList opq ρ (ExprList.ofList l); xs.mapM asPrim) = .ok (l.map (primOf opq ρ))
  | [], _ => rfl
  | e :: l, h => by
      have he := h e (by simp)
      have ih := evalPrims_intro (l := l) (fun e' he' => h e' (List.mem_cons_of_mem _ he'))
      obtain ⟨xs, hl, ih⟩ := bind_ok ih
      show ((do let v ← eval opq ρ e; let vs ← evalList opq ρ (ExprList.ofList l); pure (v :: vs)) >>= fun xs => xs.mapM asPrim) = _
      rw [he, hl]
      show List.mapM asPrim (Value.prim (primOf opq ρ e) :: xs) = _
      rw [List.mapM_cons, ih]
      rfl

theorem eval_set_eq {ρ : Env} {t : DataType} {vs : ExprList} :
    eval opq ρ (.set t vs) = ((do let xs ← evalList opq ρ vs; xs.mapM asPrim) >>= fun ps =>
      if sameKinds ps then pure (Value.set ps.eraseDups) else .error .type) := by
  exact (bind_assoc _ _ _).symm

theorem sameKinds_iff (ps : List Prim) : sameKinds ps = true ↔ ∀ p ∈ ps, ∀ q ∈ ps, p.kind = q.kind := by
  cases ps with
  | nil => simp [sameKinds]
  | cons a l =>
    simp only [sameKinds, List.all_eq_true, beq_iff_eq]
    constructor
    · intro h p hp q hq
      have e1 : p.kind = a.kind := by
        rcases List.mem_cons.1 hp with rfl | hm
        · rfl
        · exact h p hm
      have e2 : q.kind = a.kind := by
        rcases List.mem_cons.1 hq with rfl | hm
        · rfl
        · exact h q hm
      rw [e1, e2]
    · intro h q hq
      exact h q (List.mem_cons_of_mem _ hq) a (List.mem_cons_self ..)

theorem sameKinds_subset {ps qs : List Prim} (h : sameKinds ps = true) (hsub : ∀ q ∈ qs, q ∈ ps) : sameKinds qs = true :=
  (sameKinds_iff qs).2 (fun p hp q hq => (sameKinds_iff ps).1 h p (hsub p hp) q (hsub q hq))

theorem eval_set_prims {ρ : Env} {t : DataType} {vs : ExprList} {x : Value} (h : eval opq ρ (.set t vs) = .ok x) :
    (∀ e ∈ vs.toList, eval opq ρ e = .ok (.prim (primOf opq ρ e))) ∧ sameKinds (vs.toList.map (primOf opq ρ)) = true ∧
      x = .set (vs.toList.map (primOf opq ρ)).eraseDups := by
  rw [eval_set_eq] at h
  obtain ⟨ps, hps, h⟩ := bind_ok h
  obtain ⟨xs, hxs, hps⟩ := bind_ok hps
  rw [← ExprList.ofList_toList vs] at hxs
  obtain ⟨hall, rfl⟩ := evalPrims_inv opq hxs hps
  rcases ite_eq h with ⟨hk, h⟩ | ⟨-, h⟩
  · exact ⟨hall, hk, (Except.ok.inj h).symm⟩
  · cases h

/-- the value of a set literal is unchanged when repeated members are dropped (first occurrences kept) -/
theorem eval_set_dedupe {ρ : Env} {t t' : DataType} {l : List Expr} {v : Value}
    (h : eval opq ρ (.set t (ExprList.ofList l)) = .ok v) : eval opq ρ (.set t' (ExprList.ofList (dedupe l))) = .ok v := by
  obtain ⟨hall, hk, rfl⟩ := eval_set_prims opq h
  rw [ExprList.toList_ofList] at hall hk ⊢
  have hsub : ∀ e ∈ dedupe l, eval opq ρ e = .ok (.prim (primOf opq ρ e)) := fun e he => hall e (mem_eraseDups he)
  have hk' : sameKinds ((dedupe l).map (primOf opq ρ)) = true :=
    sameKinds_subset hk (fun q hq => by
      obtain ⟨e, he, rfl⟩ := List.mem_map.1 hq
      exact List.mem_map.2 ⟨e, mem_eraseDups he, rfl⟩)
  rw [eval_set_eq, evalPrims_intro opq hsub]
  refine (if_pos hk').trans ?_
  rw [dedupe, eraseDups_map_eraseDups]
  rfl

theorem mkSet_eval {vs : ExprList} {e : Expr} (h : mkSet vs = .ok e) (ρ : Env) : eval opq ρ e = eval opq ρ (.set T.SET vs) := by
  obtain ⟨vs', hvs, rfl⟩ := mkSet_ok h
  show (evalList opq ρ vs' >>= _) = (evalList opq ρ vs >>= _)
  rw [castList_evalList opq hvs]

/-! ## the recursion -/

/-- soundness of the folding step of one built-in function call, given a sound simplifier for its arguments -/
def CallFoldSound : Prop := ∀ (f : Nat) (t : DataType) (fn : String) (args : ExprList) (r : Expr),
  (∀ e r', simp f e = .ok r' → Pres opq r' e) →
  simpCall (f + 1) (.call t fn args) fn args = .ok r → Pres opq r (.call t fn args)

def PresL (rs es : ExprList) : Prop := ∀ ρ vs, evalList opq ρ es = .ok vs → evalList opq ρ rs = .ok vs

/-- soundness at fuel `f`, one field per function of the mutual block: `simp`, `simpList`, `simpNeg`, `simpBinop`,
    `simpMultiplication`, `preBinop`, `simpCall` -/
structure SoundAt (f : Nat) : Prop where
  sS : ∀ e r, simp f e = .ok r → Pres opq r e
  sL : ∀ es rs, simpList f es = .ok rs → PresL opq rs es
  sN : ∀ e a r, simpNeg f e a = .ok r → ∀ t, Pres opq r (.un t "-" a)
  sB : ∀ e r, simpBinop f e = .ok r → Pres opq r e
  sM : ∀ t a b r, simpMultiplication f (.bin t "*" a b) a b = .ok r → Pres opq r (.bin t "*" a b)
  sP : ∀ e r, preBinop f e = .ok r → Pres opq r e
  sC : ∀ t fn args r, simpCall f (.call t fn args) fn args = .ok r → Pres opq r (.call t fn args)

theorem soundAt_zero : SoundAt opq 0 :=
  ⟨fun _ _ h => (by cases h), fun _ _ h => (by cases h), fun _ _ _ h => (by cases h), fun _ _ h => (by cases h),
   fun _ _ _ _ h => (by cases h), fun _ _ h => (by cases h), fun _ _ _ _ h => (by cases h)⟩

theorem mkRange_eval {lo hi e : Expr} {a b : Bool} (h : mkRange lo hi a b = .ok e) (ρ : Env) :
    eval opq ρ e = eval opq ρ (.range T.RANGE lo hi a b) := by
  obtain ⟨lo', hi', hlo, hhi, rfl⟩ := mkRange_ok h
  simp only [eval, castE_eval opq hlo, castE_eval opq hhi]

theorem pres_set {t t' : DataType} {vs vs' : ExprList} (h : PresL opq vs' vs) : Pres opq (.set t' vs') (.set t vs) := by
  intro ρ v hv
  obtain ⟨xs, hxs, hv⟩ := bind_ok hv
  show (evalList opq ρ vs' >>= _) = _
  rw [h ρ xs hxs]
  exact hv

theorem pres_range {t t' : DataType} {lo hi lo' hi' : Expr} {a b : Bool} (hlo : Pres opq lo' lo) (hhi : Pres opq hi' hi) :
    Pres opq (.range t' lo' hi' a b) (.range t lo hi a b) := by
  intro ρ v hv
  rw [eval] at hv ⊢
  obtain ⟨l, hl, hv⟩ := bind_ok hv
  obtain ⟨u, hu, hv⟩ := bind_ok hv
  rw [hlo ρ l hl, hhi ρ u hu]
  exact hv

/-- **soundness of the recursion**: with sound folding of built-in function calls, every function of the simplifier model
    preserves the value of its input, at every fuel -/
theorem soundAt (hcall : CallFoldSound opq) : ∀ f, SoundAt opq f
  | 0 => soundAt_zero opq
  | f + 1 =>
    have ih := soundAt hcall f
    { sS := by
        intro e r h
        replace h := simp_ok h
        cases h with
        | not hp h => exact negationRule_pres opq h (ih.sS _ _ hp)
        | neg h => exact ih.sN _ _ _ h _
        | bin h => exact ih.sB _ _ h
        | call h => exact ih.sC _ _ _ _ h
        | setDedup hvs h =>
          intro ρ v hv
          rw [mkSet_eval opq h ρ]
          refine eval_set_dedupe opq (t := T.SET) ?_
          rw [ExprList.ofList_toList]
          exact pres_set opq (ih.sL _ _ hvs) ρ v hv
        | set hvs h =>
          intro ρ v hv
          rw [mkSet_eval opq h ρ]
          exact pres_set opq (ih.sL _ _ hvs) ρ v hv
        | range hlo hhi h =>
          intro ρ v hv
          rw [mkRange_eval opq h ρ]
          exact pres_range opq (ih.sS _ _ hlo) (ih.sS _ _ hhi) ρ v hv
        | same => exact Pres.refl opq _
      sL := by
        intro es rs h
        cases es with
        | nil => cases simpList_nil_ok h; exact fun _ _ hv => hv
        | cons e es =>
          obtain ⟨e', es', he', hes', rfl⟩ := simpList_cons_ok h
          intro ρ vs hv
          obtain ⟨x, xs, hx, hxs, rfl⟩ := (evalList_cons_ok opq).1 hv
          exact (evalList_cons_ok opq).2 ⟨x, xs, ih.sS _ _ he' ρ x hx, ih.sL _ _ hes' ρ xs hxs, rfl⟩
      sN := by
        intro e a r h t
        obtain ⟨a', ha', h⟩ := simpNeg_ok h
        exact negNumberRule_pres opq h (ih.sS _ _ ha')
      sB := by
        intro e r h
        obtain ⟨t, op, a, b, he', hs⟩ := simpBinop_ok h
        refine Pres.trans opq ?_ (ih.sP _ _ he')
        cases hs with
        | conj h => exact simpConjunction_sound opq t _ a b r h
        | disj h => exact simpDisjunction_sound opq t _ a b r h
        | implSelf heq hr => exact impliesRule_sound opq (a := a) (b := b) (by rw [if_pos heq, hr]; rfl)
        | impl hne hna hd h =>
          exact Pres.trans opq (ih.sS _ _ h) (impliesRule_sound opq (a := a) (b := b) (by rw [if_neg hne, hna]; exact hd))
        | iff h => exact iffRule_sound opq ih.sS h
        | cmp hop h => exact simpComparison_sound opq t _ hop a b r h
        | add h => exact simpAddition_sound opq t a b r h
        | sub h => exact simpSubtraction_sound opq t a b r h
        | mul h => exact ih.sM t a b r h
        | div h => exact simpDivision_sound opq t a b r h
        | pow h => exact simpExponentiation_sound opq t a b r h
        | other hr =>
          rw [hr]
          exact Pres.refl opq _
      sM := fun t a b r h => simpMultiplication_sound opq f ih.sN t a b r h
      sP := by
        intro e r h
        obtain ⟨t, op, x, y, a, b, rfl, ha, hb, hs⟩ := preBinop_ok h
        have pa := ih.sS _ _ ha
        have pb := ih.sS _ _ hb
        cases hs with
        | keep h => exact pres_mkBin opq pa pb h
        | comm hd hc h => exact pres_flip_comm opq (findBin_comm hd hc) pa pb h
        | inverse hd hc hi h => exact pres_flip_inverse opq (findBin_inverse hd hc hi) pa pb h
        | reassoc hd hc h =>
          obtain ⟨C⟩ := acCarrier_of (findBin_assoc hd hc)
          exact Pres.trans opq (reassoc_sound opq C ih.sB (t := t) h) (pres_bin_congr opq pa pb)
      sC := fun t fn args r h => hcall f t fn args r ih.sS h }

/-- C08 for expressions, conditional on the folding of function calls -/
theorem simplify_sound_of_calls (hcall : CallFoldSound opq) : SimplifySound opq := by
  intro e e' h
  exact (pres_iff_preserves opq _ _).1 ((soundAt opq hcall _).sS _ _ h)

end
end Hpl
