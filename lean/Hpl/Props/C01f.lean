import Hpl.Props.C18e
/-!
# C01 — the scanner loses nothing and invents nothing

`Spaced g aw cs ts`: the text `cs` is the tokens `ts`, in order, each written out in full (`tokChars`), with white space between
them where the text has some; the `glued` / `afterWord` flags of every token say what stands directly before it.
`lex_spaced`: every successfully scanned text is `Spaced` by its tokens.  With `lex_tokOk` (each literal token is a complete token of
its own text) this is what the scanner's output means in terms of the text.
-/
namespace Hpl

/-- the characters a token was read from -/
def tokChars (t : Tok) : List Char := (if t.kind == .var then ['@'] else []) ++ t.text.toList

/-- does a word character end the token (is a keyword directly after it glued to a word)? -/
def awAfter (t : Tok) : Bool :=
  match t.kind with
  | .var | .word => true
  | .num => t.text.toList.getLast? != some '.'
  | _ => false

/-- longest match: a name (word, channel name, variable) is never directly followed by an identifier character - it is the whole
    identifier that stands at its place, whatever keyword it may begin with -/
def NameMax (t : Tok) (cs : List Char) : Prop := (t.kind = .word ∨ t.kind = .var) → ∀ x, cs.head? = some x → isIdChar x = false

inductive Spaced : Bool → Bool → List Char → List Tok → Prop
  | nil (g aw : Bool) : Spaced g aw [] []
  | ws {g aw : Bool} {c : Char} {cs : List Char} {ts : List Tok} : isWs c = true → Spaced false false cs ts → Spaced g aw (c :: cs) ts
  | tok {g aw : Bool} {t : Tok} {cs : List Char} {ts : List Tok} : t.glued = g → t.afterWord = aw → tokChars t ≠ [] → NameMax t cs →
      Spaced true (awAfter t) cs ts → Spaced g aw (tokChars t ++ cs) (t :: ts)

theorem chanSegments_split (f : Nat) (cs : List Char) : cs = (chanSegments f cs).1 ++ (chanSegments f cs).2 := by
  fun_induction chanSegments f cs with
  | case1 => rfl
  | case2 f c cs hc seg rest hseg more rest' hmore ih =>
    rw [hmore] at ih
    have h2 := takeWhileC_split isIdChar cs _ _ hseg
    simp only [List.cons_append, List.append_assoc, List.cons.injEq, true_and]
    rw [h2, ih]
  | case3 => rfl
  | case4 => rfl

theorem chanSegments_rest_notId (f : Nat) (r : List Char) (h : ∀ x, r.head? = some x → isIdChar x = false) :
    ∀ x, (chanSegments f r).2.head? = some x → isIdChar x = false := by
  fun_induction chanSegments f r with
  | case1 => exact h
  | case2 f c cs hc seg rest hseg more rest' hmore ih =>
    rw [hmore] at ih
    exact ih (takeWhileC_spec isIdChar cs _ _ hseg).2.2
  | case3 => exact h
  | case4 => exact h

theorem nameMax_other {t : Tok} {cs : List Char} (h1 : t.kind ≠ .word := by simp) (h2 : t.kind ≠ .var := by simp) :
    NameMax t cs := by
  intro h; rcases h with h | h
  · exact absurd h h1
  · exact absurd h h2

theorem scanTok_spaced {d : Nat} {c : Char} {rest0 : List Char} {k : TokKind} {t r : List Char} {d' : Nat} {aw' : Bool}
    (h : scanTok d c rest0 = some (k, t, r, d', aw')) (g aw : Bool) :
    tokChars ⟨k, String.ofList t, g, aw⟩ ≠ [] ∧ NameMax ⟨k, String.ofList t, g, aw⟩ r ∧
    c :: rest0 = tokChars ⟨k, String.ofList t, g, aw⟩ ++ r ∧ awAfter ⟨k, String.ofList t, g, aw⟩ = aw' := by
  rcases scanTok_cases h with ⟨rfl, rfl, _, hw, _, rfl⟩ | ⟨rfl, rfl, hs, _, rfl⟩ | ⟨rfl, _, hn, _, rfl⟩ | ⟨rfl, _, rfl, hw⟩ | ⟨rfl, rfl, hy⟩
  · obtain ⟨hsplit, _, hmax⟩ := takeWhileC_spec isIdChar rest0 t r hw
    exact ⟨by simp [tokChars], fun _ => hmax, by simp [tokChars, hsplit], rfl⟩
  · obtain ⟨body, hb, hsb, _⟩ := scanString_self _ _ _ _ hs
    exact ⟨by simp [tokChars, hsb], nameMax_other, by simp [tokChars, hsb, hb], rfl⟩
  · obtain ⟨hcs, hself⟩ := scanNumber_self _ _ _ hn
    have hne : t ≠ [] := by
      rintro rfl; exact absurd hself (by decide)
    exact ⟨by simpa [tokChars] using hne, nameMax_other, by simpa [tokChars] using hcs, by simp [awAfter]⟩
  · have idw : isIdStart c = true → (takeWhileC isIdChar (c :: rest0)).1 ≠ [] := fun hi => by
      simp [takeWhileC, idStart_idChar c hi]
    rcases hw with ⟨hi, _, hw⟩ | ⟨ha, _, rfl, rfl⟩ | ⟨_, _, _, rfl, rfl⟩
    · obtain ⟨hsplit, _, hmax⟩ := takeWhileC_spec isIdChar (c :: rest0) t r hw
      have hne := idw hi
      rw [hw] at hne
      exact ⟨by simpa [tokChars] using hne, fun _ => hmax, by simpa [tokChars] using hsplit, rfl⟩
    · refine ⟨by simp [tokChars, idw (by simp [isIdStart, ha])],
        fun _ => chanSegments_rest_notId _ _ (takeWhileC_spec isIdChar (c :: rest0) _ _ rfl).2.2, ?_, rfl⟩
      simp only [tokChars, String.toList_ofList, List.append_assoc]
      rw [← chanSegments_split]
      have h1 := takeWhileC_split isIdChar (c :: rest0) _ _ rfl
      exact h1
    · refine ⟨by simp [tokChars], fun _ => chanSegments_rest_notId _ _ (takeWhileC_spec isIdChar rest0 _ _ rfl).2.2, ?_, rfl⟩
      simp only [tokChars, String.toList_ofList, List.cons_append, List.append_assoc]
      rw [← chanSegments_split]
      have h1 := takeWhileC_split isIdChar rest0 _ _ rfl
      exact congrArg (List.cons c) h1
  · rcases hy with ⟨h2, rfl, _⟩ | ⟨_, rfl, rfl, _⟩
    · obtain ⟨b, xs, rfl, _, rfl⟩ := twoChar_some h2
      exact ⟨by simp [tokChars], nameMax_other, by simp [tokChars], rfl⟩
    · exact ⟨by simp [tokChars], nameMax_other, by simp [tokChars], rfl⟩

/-- **every scanned text is its tokens, written out in order, with white space in between** -/
theorem scan_spaced : ∀ (f : Nat) (cs : List Char) (d : Nat) (g aw : Bool) (acc ts : List Tok),
    scan f cs d g aw acc = .ok ts → ∃ new, ts = acc.reverse ++ new ∧ Spaced g aw cs new := by
  intro f
  induction f with
  | zero => intro cs d g aw acc ts h; cases h
  | succ f ih =>
    intro cs d g aw acc ts h
    cases cs with
    | nil =>
      cases Except.ok.inj h
      exact ⟨[], by simp, .nil g aw⟩
    | cons c rest0 =>
      rw [scan_cons] at h
      by_cases hws : isWs c = true
      · rw [if_pos hws] at h
        obtain ⟨new', hts, hsp⟩ := ih rest0 d false false acc ts h
        exact ⟨new', hts, .ws hws hsp⟩
      · rw [if_neg hws] at h
        cases hst : scanTok d c rest0 with
        | none => rw [hst] at h; cases h
        | some x =>
          obtain ⟨k, t, r, d', aw'⟩ := x
          rw [hst] at h
          obtain ⟨hne, hmax, hcs, haw⟩ := scanTok_spaced hst g aw
          obtain ⟨new', hts, hsp⟩ := ih r d' true aw' (_ :: acc) ts h
          refine ⟨⟨k, String.ofList t, g, aw⟩ :: new', by simp [hts], ?_⟩
          rw [hcs]
          exact .tok rfl rfl hne hmax (haw ▸ hsp)

theorem scan_spaced_nil {f : Nat} {cs : List Char} {d : Nat} {g aw : Bool} {ts : List Tok} (h : scan f cs d g aw [] = .ok ts) :
    Spaced g aw cs ts := by
  obtain ⟨new, hts, hsp⟩ := scan_spaced _ _ _ _ _ _ _ h
  exact hts ▸ hsp

theorem lex_spaced {s : String} {ts : List Tok} (h : lex s = .ok ts) : Spaced false false s.toList ts := scan_spaced_nil h

theorem lexExpr_spaced {s : String} {ts : List Tok} (h : lexExpr s = .ok ts) : Spaced false false s.toList ts := scan_spaced_nil h

end Hpl
