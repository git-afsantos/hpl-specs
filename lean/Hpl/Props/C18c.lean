import Hpl.Props.C18b
import Hpl.Props.C18
/-!
# C18 — the parser is local: what follows a phrase does not change how the phrase is read

`ExtAt f`: if a function of the expression parser, with fuel `f`, reads a phrase from `ts` and leaves a non-empty remainder, then with
any larger fuel and any further tokens appended it reads the same phrase and leaves the remainder extended by those tokens.
-/
namespace Hpl

/-- a parser function that reads the same phrase when more fuel is given and more input follows a non-empty remainder -/
def Ext {α : Type} (p : Nat → List Tok → PR (α × List Tok)) (f : Nat) : Prop :=
  ∀ ts r rest more f', p f ts = .ok (r, rest) → rest ≠ [] → f ≤ f' → p f' (ts ++ more) = .ok (r, rest ++ more)

theorem Ext.succ {α : Type} {p : Nat → List Tok → PR (α × List Tok)} {f : Nat}
    (h : ∀ ts r rest more f'', p (f + 1) ts = .ok (r, rest) → rest ≠ [] → f ≤ f'' → p (f'' + 1) (ts ++ more) = .ok (r, rest ++ more)) :
    Ext p (f + 1) := by
  intro ts r rest more f' hp hne hf
  obtain ⟨f'', rfl⟩ : ∃ n, f' = n + 1 := ⟨f' - 1, by omega⟩
  exact h ts r rest more f'' hp hne (by omega)

theorem Ext.map {p : Nat → List Tok → PR (Raw × List Tok)} {f f'' : Nat} (ih : Ext p f) (g : Raw → Raw) {ts rest more : List Tok} {r : Raw}
    (h : (do let (a, ts') ← p f ts; pure (g a, ts')) = .ok (r, rest)) (hne : rest ≠ []) (hf : f ≤ f'') :
    (do let (a, ts') ← p f'' (ts ++ more); pure (g a, ts')) = .ok (r, rest ++ more) := by
  obtain ⟨a, ts', h1, h2⟩ := bind_ok_pair h
  obtain ⟨rfl, rfl⟩ := pure_pair_inj h2
  exact bind_ok_eq (ih ts a ts' more f'' h1 hne hf) _

structure ExtAt (f : Nat) : Prop where
  cond : Ext pCondition f
  condLoop : ∀ a, Ext (fun n ts => pCondLoop n a ts) f
  disj : Ext pDisjunction f
  disjLoop : ∀ a, Ext (fun n ts => pDisjLoop n a ts) f
  conj : Ext pConjunction f
  conjLoop : ∀ a, Ext (fun n ts => pConjLoop n a ts) f
  logic : Ext pLogic f
  atomicCond : Ext pAtomicCondition f
  expr : Ext pExpr f
  exprLoop : ∀ a, Ext (fun n ts => pExprLoop n a ts) f
  term : Ext pTerm f
  termLoop : ∀ a, Ext (fun n ts => pTermLoop n a ts) f
  factor : Ext pFactor f
  factorLoop : ∀ a, Ext (fun n ts => pFactorLoop n a ts) f
  exponent : Ext pExponent f
  atomicValue : Ext pAtomicValue f
  setTail : ∀ acc, Ext (fun n ts => pSetTail n acc ts) f
  rangeBody : ∀ ex, Ext (fun n ts => pRangeBody n ex ts) f
  refTail : ∀ r, Ext (fun n ts => pRefTail n r ts) f

/-- one left-recursive level of the grammar: a sub-phrase, then the loop that continues it -/
theorem ext_level {f k : Nat} (hk : isLoopLevel k = true) (ihSub : Ext (pL (k + 1)) f) (ihLoop : ∀ a, Ext (fun n ts => loopL k n a ts) f) :
    Ext (pL k) (f + 1) ∧ ∀ a, Ext (fun n ts => loopL k n a ts) (f + 1) := by
  have h0 : ∀ a, loopL k 0 a [] = perr := by
    simp only [isLoopLevel, Bool.or_eq_true, beq_iff_eq] at hk
    rcases hk with ((((rfl | rfl) | rfl) | rfl) | rfl) | rfl <;> exact fun _ => rfl
  have step : ∀ (m : Raw → Raw) ts r rest more f'', (do let (b, ts') ← pL (k + 1) f ts; loopL k f (m b) ts') = .ok (r, rest) → rest ≠ [] →
      f ≤ f'' → (do let (b, ts') ← pL (k + 1) f'' (ts ++ more); loopL k f'' (m b) ts') = .ok (r, rest ++ more) := by
    intro m ts r rest more f'' h hne hf
    obtain ⟨b, ts1, h1, h2⟩ := bind_ok_pair h
    have h2 : loopL k f (m b) ts1 = .ok (r, rest) := h2
    -- the loop leaves something, so it was given something
    have hts1 : ts1 ≠ [] := by
      rintro rfl
      cases f with
      | zero => rw [h0] at h2; cases h2
      | succ n => rw [loopL_eq hk] at h2; exact hne (ok_pair_inj h2).2.symm
    exact (bind_ok_eq (ihSub ts b ts1 more f'' h1 hts1 hf) _).trans (ihLoop (m b) ts1 r rest more f'' h2 hne hf)
  refine ⟨Ext.succ fun ts r rest more f'' h hne hf => ?_, fun a => Ext.succ fun ts r rest more f'' h hne hf => ?_⟩
  · rw [pL_loop_eq hk] at h ⊢
    exact step id ts r rest more f'' h hne hf
  · have h : loopL k (f + 1) a ts = .ok (r, rest) := h
    show loopL k (f'' + 1) a (ts ++ more) = .ok (r, rest ++ more)
    rw [loopL_eq hk] at h ⊢
    cases ts with
    | nil => exact absurd (ok_pair_inj h).2.symm hne
    | cons t r0 =>
      rcases bite_eq h with ⟨ht, h⟩ | ⟨ht, h⟩
      · exact (if_pos ht).trans (step _ r0 r rest more f'' h hne hf)
      · obtain ⟨rfl, rfl⟩ := ok_pair_inj h
        exact bite_neg ht _ _

theorem ext_zero {α : Type} {p : Nat → List Tok → PR (α × List Tok)} (h0 : ∀ ts, p 0 ts = perr := by exact fun _ => rfl) : Ext p 0 := by
  intro ts r rest more f' h; rw [h0] at h; cases h

theorem extAt_zero : ExtAt 0 :=
  ⟨ext_zero, fun _ => ext_zero, ext_zero, fun _ => ext_zero, ext_zero, fun _ => ext_zero, ext_zero, ext_zero, ext_zero,
   fun _ => ext_zero, ext_zero, fun _ => ext_zero, ext_zero, fun _ => ext_zero, ext_zero, ext_zero, fun _ => ext_zero,
   fun _ => ext_zero, fun _ => ext_zero⟩

theorem pSetTail_nil {f : Nat} {acc : List Raw} {r : Raw} {rest : List Tok} (h : pSetTail f acc [] = .ok (r, rest)) : False := by
  cases f <;> cases h

theorem extAt_succ (f : Nat) (ih : ExtAt f) : ExtAt (f + 1) :=
  have c := ext_level (k := 0) rfl ih.disj ih.condLoop
  have d := ext_level (k := 1) rfl ih.conj ih.disjLoop
  have j := ext_level (k := 2) rfl ih.logic ih.conjLoop
  have e := ext_level (k := 5) rfl ih.term ih.exprLoop
  have m := ext_level (k := 6) rfl ih.factor ih.termLoop
  have p := ext_level (k := 7) rfl ih.exponent ih.factorLoop
  { cond := c.1, condLoop := c.2, disj := d.1, disjLoop := d.2, conj := j.1, conjLoop := j.2
    expr := e.1, exprLoop := e.2, term := m.1, termLoop := m.2, factor := p.1, factorLoop := p.2
    logic := Ext.succ fun ts r rest more f'' h hne hf => by
      cases ts with
      | nil => cases h
      | cons t r0 =>
        rw [List.cons_append]
        rcases bite_eq h with ⟨ht, h⟩ | ⟨ht, h⟩
        · exact (if_pos ht).trans (ih.logic.map _ h hne hf)
        · refine (bite_neg ht _ _).trans ?_
          rcases bite_eq h with ⟨hq, h⟩ | ⟨hq, h⟩
          · refine (if_pos hq).trans ?_
            cases r0 with
            | nil => cases h
            | cons v r1 =>
              cases r1 with
              | nil => cases h
              | cons kin rest2 =>
                obtain ⟨hv, h⟩ := ite_perr h
                obtain ⟨d, ts2, h1, h2⟩ := bind_ok_pair h
                obtain ⟨c, rest3, rfl, hc, h2⟩ := expect_ok h2
                obtain ⟨b, ts3, h3, h4⟩ := bind_ok_pair h2
                obtain ⟨rfl, rfl⟩ := pure_pair_inj h4
                exact (if_pos hv).trans ((bind_ok_eq (ih.atomicValue rest2 d (c :: rest3) more f'' h1 (List.cons_ne_nil _ _) hf) _).trans
                  ((if_pos hc).trans (bind_ok_eq (ih.logic rest3 b ts3 more f'' h3 hne hf) _)))
          · refine (bite_neg hq _ _).trans ?_
            exact ih.atomicCond (t :: r0) r rest more f'' h hne hf
    atomicCond := Ext.succ fun ts r rest more f'' h hne hf => by
      obtain ⟨a, ts1, h1, h2⟩ := bind_ok_pair h
      cases ts1 with
      | nil => obtain ⟨_, rfl⟩ := pure_pair_inj h2; exact absurd rfl hne
      | cons t r1 =>
        refine (bind_ok_eq (ih.expr ts a (t :: r1) more f'' h1 (List.cons_ne_nil _ _) hf) _).trans ?_
        rcases bite_eq h2 with ⟨hc, h2⟩ | ⟨hc, h2⟩
        · exact (if_pos hc).trans (ih.expr.map _ h2 hne hf)
        · refine (bite_neg hc _ _).trans ?_
          rcases bite_eq h2 with ⟨hi, h2⟩ | ⟨hi, h2⟩
          · exact (if_pos hi).trans (ih.expr.map _ h2 hne hf)
          · refine (bite_neg hi _ _).trans ?_
            obtain ⟨rfl, rfl⟩ := pure_pair_inj h2
            rfl
    exponent := Ext.succ fun ts r rest more f'' h hne hf => by
      cases ts with
      | nil => cases h
      | cons t r0 =>
        rw [List.cons_append]
        rcases bite_eq h with ⟨ht, h⟩ | ⟨ht, h⟩
        · exact (if_pos ht).trans (ih.exponent.map _ h hne hf)
        · refine (bite_neg ht _ _).trans ?_
          rcases bite_eq h with ⟨hp, h⟩ | ⟨hp, h⟩
          · refine (if_pos hp).trans ?_
            obtain ⟨a, ts', h1, h2⟩ := bind_ok_pair h
            obtain ⟨c, rest2, rfl, hc, h2⟩ := expect_ok h2
            obtain ⟨rfl, rfl⟩ := pure_pair_inj h2
            exact (bind_ok_eq (ih.cond r0 a (c :: rest2) more f'' h1 (List.cons_ne_nil _ _) hf) _).trans (if_pos hc)
          · refine (bite_neg hp _ _).trans ?_
            exact ih.atomicValue (t :: r0) r rest more f'' h hne hf
    atomicValue := Ext.succ fun ts r rest more f'' h hne hf => by
      cases ts with
      | nil => cases h
      | cons t r0 =>
        rw [pAtomicValue.eq_def] at h
        rw [pAtomicValue.eq_def, List.cons_append]
        dsimp only at h ⊢
        cases hk : t.kind with
        | str =>
          simp only [hk] at h ⊢
          obtain ⟨rfl, rfl⟩ := ok_pair_inj h
          rfl
        | num =>
          simp only [hk] at h ⊢
          cases hd : decimalValue t.text with
          | none => rw [hd] at h; cases h
          | some v =>
            rw [hd] at h
            obtain ⟨rfl, rfl⟩ := ok_pair_inj h
            rfl
        | var =>
          simp only [hk] at h ⊢
          exact ih.refTail _ r0 r rest more f'' h hne hf
        | word =>
          simp only [hk] at h ⊢
          rcases bite_eq h with ⟨_, h⟩ | ⟨hc, h⟩
          · cases h
          · refine (bite_neg hc _ _).trans ?_
            rcases bite_eq h with ⟨h1, h⟩ | ⟨h1, h⟩
            · refine (if_pos h1).trans ?_
              obtain ⟨rfl, rfl⟩ := ok_pair_inj h
              rfl
            · refine (bite_neg h1 _ _).trans ?_
              rcases bite_eq h with ⟨h2, h⟩ | ⟨h2, h⟩
              · refine (if_pos h2).trans ?_
                obtain ⟨rfl, rfl⟩ := ok_pair_inj h
                rfl
              · refine (bite_neg h2 _ _).trans ?_
                rcases bite_eq h with ⟨h3, h⟩ | ⟨h3, h⟩
                · refine (if_pos h3).trans ?_
                  cases hn : numberConstant t.text with
                  | none => rw [hn] at h; cases h
                  | some v =>
                    rw [hn] at h
                    obtain ⟨rfl, rfl⟩ := ok_pair_inj h
                    rfl
                · refine (bite_neg h3 _ _).trans ?_
                  cases r0 with
                  | nil => obtain ⟨_, rfl⟩ := ok_pair_inj h; exact absurd rfl hne
                  | cons o rest2 =>
                    rw [List.cons_append]
                    rcases bite_eq h with ⟨ho, h⟩ | ⟨ho, h⟩
                    · obtain ⟨a, ts', h4, h5⟩ := bind_ok_pair h
                      obtain ⟨c, rest3, rfl, hcl, h5⟩ := expect_ok h5
                      obtain ⟨rfl, rfl⟩ := pure_pair_inj h5
                      exact (if_pos ho).trans ((bind_ok_eq (ih.expr rest2 a (c :: rest3) more f'' h4 (List.cons_ne_nil _ _) hf) _).trans (if_pos hcl))
                    · exact (bite_neg ho _ _).trans (ih.refTail _ (o :: rest2) r rest more f'' h hne hf)
        | sym =>
          simp only [hk] at h ⊢
          rcases bite_eq h with ⟨h1, h⟩ | ⟨h1, h⟩
          · refine (if_pos h1).trans ?_
            obtain ⟨a, ts', h4, h5⟩ := bind_ok_pair h
            have hts' : ts' ≠ [] := by
              rintro rfl; exact pSetTail_nil h5
            exact (bind_ok_eq (ih.expr r0 a ts' more f'' h4 hts' hf) _).trans (ih.setTail _ ts' r rest more f'' h5 hne hf)
          · refine (bite_neg h1 _ _).trans ?_
            rcases bite_eq h with ⟨h2, h⟩ | ⟨h2, h⟩
            · refine (if_pos h2).trans ?_
              exact ih.rangeBody _ r0 r rest more f'' h hne hf
            · refine (bite_neg h2 _ _).trans ?_
              obtain ⟨h3, h⟩ := ite_perr h
              refine (if_pos h3).trans ?_
              exact ih.rangeBody _ r0 r rest more f'' h hne hf
    setTail := fun acc => Ext.succ fun ts r rest more f'' h hne hf => by
      cases ts with
      | nil => cases h
      | cons t r0 =>
        have h : pSetTail (f + 1) acc (t :: r0) = .ok (r, rest) := h
        show pSetTail (f'' + 1) acc (t :: (r0 ++ more)) = .ok (r, rest ++ more)
        rcases bite_eq h with ⟨ht, h⟩ | ⟨ht, h⟩
        · refine (if_pos ht).trans ?_
          obtain ⟨rfl, rfl⟩ := ok_pair_inj h
          rfl
        · refine (bite_neg ht _ _).trans ?_
          obtain ⟨hc, h⟩ := ite_perr h
          refine (if_pos hc).trans ?_
          obtain ⟨a, ts', h1, h2⟩ := bind_ok_pair h
          have hts' : ts' ≠ [] := by
            rintro rfl; exact pSetTail_nil h2
          exact (bind_ok_eq (ih.expr r0 a ts' more f'' h1 hts' hf) _).trans (ih.setTail _ ts' r rest more f'' h2 hne hf)
    rangeBody := fun ex => Ext.succ fun ts r rest more f'' h hne hf => by
      have h : pRangeBody (f + 1) ex ts = .ok (r, rest) := h
      show pRangeBody (f'' + 1) ex (ts ++ more) = .ok (r, rest ++ more)
      obtain ⟨lo, ts1, h1, h2⟩ := bind_ok_pair h
      cases ts1 with
      | nil => cases h2
      | cons t r1 =>
        refine (bind_ok_eq (ih.expr ts lo (t :: r1) more f'' h1 (List.cons_ne_nil _ _) hf) _).trans ?_
        obtain ⟨ht, h2⟩ := ite_perr h2
        obtain ⟨hi, ts2, h3, h4⟩ := bind_ok_pair h2
        cases ts2 with
        | nil => cases h4
        | cons c r2 =>
          refine (if_pos ht).trans ((bind_ok_eq (ih.expr r1 hi (c :: r2) more f'' h3 (List.cons_ne_nil _ _) hf) _).trans ?_)
          rcases bite_eq h4 with ⟨hc, h4⟩ | ⟨hc, h4⟩
          · refine (if_pos hc).trans ?_
            obtain ⟨rfl, rfl⟩ := pure_pair_inj h4
            rfl
          · refine (bite_neg hc _ _).trans ?_
            obtain ⟨hc2, h4⟩ := ite_perr h4
            refine (if_pos hc2).trans ?_
            obtain ⟨rfl, rfl⟩ := pure_pair_inj h4
            rfl
    refTail := fun x => Ext.succ fun ts r rest more f'' h hne hf => by
      have h : pRefTail (f + 1) x ts = .ok (r, rest) := h
      show pRefTail (f'' + 1) x (ts ++ more) = .ok (r, rest ++ more)
      cases ts with
      | nil => obtain ⟨_, rfl⟩ := ok_pair_inj h; exact absurd rfl hne
      | cons t r0 =>
        rw [List.cons_append]
        rcases bite_eq h with ⟨ht, h⟩ | ⟨ht, h⟩
        · refine (if_pos ht).trans ?_
          cases r0 with
          | nil => cases h
          | cons n r2 =>
            rw [List.cons_append]
            obtain ⟨hn, h⟩ := ite_perr h
            exact (if_pos hn).trans (ih.refTail _ r2 r rest more f'' h hne hf)
        · refine (bite_neg ht _ _).trans ?_
          rcases bite_eq h with ⟨hb, h⟩ | ⟨hb, h⟩
          · refine (if_pos hb).trans ?_
            obtain ⟨i, ts', h1, h2⟩ := bind_ok_pair h
            obtain ⟨c, r2, rfl, hc, h2⟩ := expect_ok h2
            exact (bind_ok_eq (ih.expr r0 i (c :: r2) more f'' h1 (List.cons_ne_nil _ _) hf) _).trans
              ((if_pos hc).trans (ih.refTail _ r2 r rest more f'' h2 hne hf))
          · refine (bite_neg hb _ _).trans ?_
            obtain ⟨rfl, rfl⟩ := ok_pair_inj h
            rfl }

/-- **locality of the expression parser**, for every fuel -/
theorem parse_ext : ∀ f, ExtAt f
  | 0 => extAt_zero
  | f + 1 => extAt_succ f (parse_ext f)

/-- what may follow a property: not `as`, `{` or `within` (the three tokens an event or pattern would still take) -/
def stopsProp (more : List Tok) : Prop := match more with | t :: _ => isKw t "as" = false ∧ isSym t "{" = false ∧ isKw t "within" = false | [] => True

/-- what may follow an event that used up its text: anything but an alias or a predicate -/
def stopsEv (more : List Tok) : Prop := match more with | t :: _ => isKw t "as" = false ∧ isSym t "{" = false | [] => True

theorem stopsProp_ev {more : List Tok} (h : stopsProp more) : stopsEv more := by
  cases more with
  | nil => trivial
  | cons t _ => exact ⟨h.1, h.2.1⟩

/-- a parser step that reads the same phrase when more input follows; an empty remainder asks the following input not to continue it -/
def ExtPF {α : Type} (F : List Tok → Prop) (p : List Tok → PR (α × List Tok)) : Prop :=
  ∀ ts r rest more, p ts = .ok (r, rest) → (rest = [] → F more) → p (ts ++ more) = .ok (r, rest ++ more)

abbrev ExtP {α : Type} (p : List Tok → PR (α × List Tok)) : Prop := ExtPF stopsProp p

theorem ExtPF.mono {α : Type} {F F' : List Tok → Prop} {p : List Tok → PR (α × List Tok)} (hF : ∀ m, F' m → F m) (h : ExtPF F p) : ExtPF F' p :=
  fun ts r rest more hp hs => h ts r rest more hp (fun hr => hF _ (hs hr))

theorem stopsEv.as {more : List Tok} (h : stopsEv more) : NoHead (isKw · "as") more := by
  rintro t tl rfl; exact h.1

theorem stopsEv.brace {more : List Tok} (h : stopsEv more) : NoHead (isSym · "{") more := by
  rintro t tl rfl; exact h.2

theorem stopsProp.within {more : List Tok} (h : stopsProp more) : NoHead (isKw · "within") more := by
  rintro t tl rfl; exact h.2.2

theorem parseFuel_le (ts more : List Tok) : parseFuel ts ≤ parseFuel (ts ++ more) := by
  simp only [parseFuel, List.length_append]; omega

theorem pPredicate_ext (ts : List Tok) (r : Raw) (rest more : List Tok) (h : pPredicate ts = .ok (r, rest)) :
    pPredicate (ts ++ more) = .ok (r, rest ++ more) := by
  obtain ⟨t, r0, c, rfl, ho, h1, hc⟩ := pPredicate_ok h
  exact pPredicate_of ho ((parse_ext _).cond r0 r (c :: rest) more _ h1 (List.cons_ne_nil _ _) (parseFuel_le (t :: r0) more)) hc

theorem pEventBody_extE (name : String) (al : Option String) : ExtPF stopsEv (pEventBody name al) := by
  intro ts r rest more h hs
  rcases pEventBody_ok h with ⟨p, h1, rfl⟩ | ⟨hb, rfl, rfl⟩
  · exact pEventBody_some (pPredicate_ext ts p rest more h1)
  · exact pEventBody_none (hb.append (fun h0 => (hs h0).brace))

theorem pEventBody_ext (name : String) (al : Option String) : ExtP (pEventBody name al) := (pEventBody_extE name al).mono (fun _ => stopsProp_ev)

theorem pEvent_extE : ExtPF stopsEv pEvent := by
  intro ts r rest more h hs
  obtain ⟨n, r0, rfl, hk, hn, hc⟩ := pEvent_ok h
  rcases hc with ⟨a, v, r2, rfl, ha, hvk, hv, hb⟩ | ⟨hna, hb⟩
  · exact (pEvent_alias hk hn ha hvk hv).trans (pEventBody_extE _ _ r2 r rest more hb hs)
  · refine (pEvent_plain hk hn (hna.append (fun h0 => (hs ?_).as))).trans (pEventBody_extE _ _ r0 r rest more hb hs)
    -- nothing after the name: nothing left
    subst h0
    exact (ok_pair_inj hb).2.symm

theorem pEvent_ext : ExtP pEvent := pEvent_extE.mono (fun _ => stopsProp_ev)

theorem pDisjTail_ext (f : Nat) (acc : List RawSimple) (ts : List Tok) (r : RawEvent) (rest more : List Tok) (f' : Nat)
    (h : pDisjTail f acc ts = .ok (r, rest)) (hf : f ≤ f') : pDisjTail f' acc (ts ++ more) = .ok (r, rest ++ more) := by
  induction f generalizing acc ts f' with
  | zero => cases h
  | succ n ih =>
    obtain ⟨f0, e, t, r1, hf0, he, hc⟩ := pDisjTail_ok h
    cases hf0
    obtain ⟨f'', rfl⟩ : ∃ k, f' = k + 1 := ⟨f' - 1, by omega⟩
    have he' := pEvent_ext ts e (t :: r1) more he nofun
    rcases hc with ⟨hor, hd⟩ | ⟨hcl, hne, rfl, rfl⟩
    · exact (pDisjTail_or he' hor).trans (ih _ r1 f'' hd (by omega))
    · exact pDisjTail_close he' hcl hne

theorem pAnyEvent_extE : ExtPF stopsEv pAnyEvent := by
  intro ts r rest more h hs
  obtain ⟨t, r0, rfl, hc⟩ := pAnyEvent_ok h
  rw [List.cons_append]
  rcases hc with ⟨hp, hd⟩ | ⟨hp, s, he, rfl⟩
  · exact (pAnyEvent_disj _ hp).trans (pDisjTail_ext _ [] r0 r rest more _ hd (by simp only [List.length_cons, List.length_append]; omega))
  · exact pAnyEvent_simple hp (pEvent_extE (t :: r0) s rest more he hs)

theorem pAnyEvent_ext : ExtP pAnyEvent := pAnyEvent_extE.mono (fun _ => stopsProp_ev)

theorem pTimeBound_ext : ExtP pTimeBound := by
  intro ts r rest more h hs
  rcases pTimeBound_ok h with ⟨hw, rfl, rfl⟩ | ⟨w, n, u, v, unit, rfl, hw, hn, hd, hu, rfl⟩
  · exact pTimeBound_none (hw.append (fun h0 => (hs h0).within))
  · exact pTimeBound_within hw hn hd hu

theorem pMetadata_ext (f : Nat) (acc : List (String × String)) (ts : List Tok) (r : List (String × String)) (rest more : List Tok) (f' : Nat)
    (h : pMetadata f acc ts = .ok (r, rest)) (hne : rest ≠ []) (hf : f ≤ f') : pMetadata f' acc (ts ++ more) = .ok (r, rest ++ more) := by
  induction f generalizing acc ts f' with
  | zero => cases h
  | succ n ih =>
    obtain ⟨f'', rfl⟩ : ∃ k, f' = k + 1 := ⟨f' - 1, by omega⟩
    rcases pMetadata_ok h with ⟨hh, rfl, rfl⟩ | ⟨f0, hd, k, c, v, r0, key, hf0, rfl, hh, hc, hk, hm⟩
    · exact pMetadata_noHash _ _ (hh.append (fun h0 => absurd h0 hne))
    · cases hf0
      exact (pMetadata_item _ _ _ hh hc hk).trans (ih _ r0 f'' hm (by omega))

theorem pScope_ext (ts : List Tok) (sk : ScopeKind) (a q : Option RawEvent) (rest more : List Tok)
    (h : pScope ts = .ok (sk, a, q, rest)) (hne : rest ≠ []) :
    pScope (ts ++ more) = .ok (sk, a, q, rest ++ more) := by
  obtain ⟨t, r0, rfl, hc⟩ := pScope_ok h
  rcases hc with ⟨h1, rfl, rfl, rfl, rfl⟩ | ⟨h2, e, r1, ha, rfl, hc⟩ | ⟨h3, e, ha, rfl, rfl, rfl⟩
  · exact pScope_globally _ h1
  · rcases hc with ⟨u, r2, e2, rfl, hu, hb, rfl, rfl⟩ | ⟨hu, rfl, rfl, rfl⟩
    · exact pScope_afterUntil h2 (pAnyEvent_ext r0 e (u :: r2) more ha nofun) hu (pAnyEvent_ext r2 e2 rest more hb (fun hh => absurd hh hne))
    · exact pScope_after h2 (pAnyEvent_ext r0 e rest more ha (fun hh => absurd hh hne)) (hu.append (fun hh => absurd hh hne))
  · exact pScope_until h3 (pAnyEvent_ext r0 e rest more ha (fun hh => absurd hh hne))

theorem pEvTb_ext (mk : RawEvent → Option (Rat × TimeUnit) → RawProperty) : ExtP (pEvTb mk) := by
  intro ts p rest more h hs
  obtain ⟨b, r, tb, h1, h3, rfl⟩ := pEvTb_ok h
  -- if the event used up the text, so did the time bound
  have hr : r = [] → rest = [] := by
    rintro rfl
    exact (ok_pair_inj h3).2.symm
  exact pEvTb_of (pAnyEvent_ext ts b r more h1 (fun h0 => hs (hr h0))) (pTimeBound_ext r tb rest more h3 hs)

theorem pPattern_ext (sk : ScopeKind) (act term : Option RawEvent) (md : List (String × String)) : ExtP (pPattern sk act term md) := by
  intro ts p rest more h hs
  obtain ⟨t, r0, rfl, hc⟩ := pPattern_ok h
  rcases hc with ⟨h1, he⟩ | ⟨h2, he⟩ | ⟨h1, h2, e1, k, r2, w, hw, ha, hk, he⟩
  · exact (pPattern_some _ h1).trans (pEvTb_ext _ r0 p rest more he hs)
  · exact (pPattern_no _ h2).trans (pEvTb_ext _ r0 p rest more he hs)
  · exact (pPattern_bin h1 h2 (pAnyEvent_ext (t :: r0) e1 (k :: r2) more ha nofun) hk hw).trans (pEvTb_ext _ r2 p rest more he hs)

theorem pProperty_ext : ExtP pProperty := by
  intro ts p rest more h hs
  obtain ⟨md, r1, sk, act, term, c, r3, h1, h2, hc, h3⟩ := pProperty_ok h
  have hr1 : r1 ≠ [] := by
    rintro rfl; cases h2
  have h1' := pMetadata_ext _ [] ts md r1 more ((ts ++ more).length + 1) h1 hr1 (by simp only [List.length_append]; omega)
  exact (pProperty_of h1' (pScope_ext r1 sk act term (c :: r3) more h2 (List.cons_ne_nil _ _)) hc).trans
    (pPattern_ext sk act term md r3 p rest more h3 hs)

/-- a text that parses as a property starts with `#`, `globally`, `after` or `until`: never with a token that could continue
    the property before it -/
theorem property_starts (ts : List Tok) (p : RawProperty) (rest : List Tok) (h : pProperty ts = .ok (p, rest)) :
    ts ≠ [] ∧ stopsProp ts := by
  obtain ⟨md, r1, sk, act, term, c, r3, h1, h2, _, _⟩ := pProperty_ok h
  have kw : ∀ {t : Tok} {w : String} (tl : List Tok), isKw t w = true → w ≠ "as" → w ≠ "within" → t :: tl ≠ [] ∧ stopsProp (t :: tl) :=
    fun _ hk h1 h2 => ⟨List.cons_ne_nil _ _, isKw_other hk h1, isSym_of_kw hk, isKw_other hk h2⟩
  rcases pMetadata_ok h1 with ⟨_, _, rfl⟩ | ⟨_, hd, _, _, _, _, _, _, rfl, hh, _⟩
  · obtain ⟨t, r0, rfl, hs⟩ := pScope_ok h2
    rcases hs with ⟨hk, _⟩ | ⟨hk, _⟩ | ⟨hk, _⟩
    · exact kw _ hk (by decide) (by decide)
    · exact kw _ hk (by decide) (by decide)
    · exact kw _ hk (by decide) (by decide)
  · exact ⟨List.cons_ne_nil _ _, isKw_of_sym hh, isSym_other hh (by decide), isKw_of_sym hh⟩

/-- the texts of the properties of a file, one after the other -/
def fileToks (chunks : List (List Tok × RawProperty)) : List Tok := chunks.flatMap (·.1)

theorem fileToks_starts : ∀ (chunks : List (List Tok × RawProperty)),
    (∀ c ∈ chunks, parsePropertyToks c.1 = .ok c.2) → stopsProp (fileToks chunks) ∧ chunks.length ≤ (fileToks chunks).length
  | [], _ => ⟨trivial, Nat.le_refl _⟩
  | c :: cs, h => by
      have hc := property_starts c.1 c.2 [] (parsePropertyToks_ok (h c (List.mem_cons_self ..)))
      have ih := (fileToks_starts cs (fun c' hm => h c' (List.mem_cons_of_mem _ hm))).2
      cases hh : c.1 with
      | nil => exact absurd hh hc.1
      | cons t tl =>
        have hs := hc.2
        simp only [fileToks, List.flatMap_cons, hh, List.cons_append, stopsProp, List.length_append, List.length_cons] at hs ih ⊢
        exact ⟨hs, by omega⟩

theorem pFile_concat : ∀ (chunks : List (List Tok × RawProperty)) (acc : List RawProperty) (f : Nat),
    (∀ c ∈ chunks, parsePropertyToks c.1 = .ok c.2) → chunks ≠ [] → chunks.length ≤ f →
    pFile f acc (fileToks chunks) = .ok (acc ++ chunks.map (·.2)) := by
  intro chunks
  induction chunks with
  | nil => intro _ _ _ hne; exact absurd rfl hne
  | cons c cs ih =>
    intro acc f h _ hf
    obtain ⟨f, rfl⟩ : ∃ n, f = n + 1 := ⟨f - 1, by simp only [List.length_cons] at hf; omega⟩
    have hc := parsePropertyToks_ok (h c (List.mem_cons_self ..))
    have hcs : ∀ c' ∈ cs, parsePropertyToks c'.1 = .ok c'.2 := fun c' hm => h c' (List.mem_cons_of_mem _ hm)
    have hst := fileToks_starts cs hcs
    have hp : pProperty (fileToks (c :: cs)) = .ok (c.2, fileToks cs) :=
      pProperty_ext c.1 c.2 [] (fileToks cs) hc (fun _ => hst.1)
    cases cs with
    | nil => exact pFile_last hp
    | cons c' cs' =>
      exact (pFile_next hp (List.ne_nil_of_length_pos (Nat.lt_of_lt_of_le (Nat.succ_pos _) hst.2))).trans
        ((ih (acc ++ [c.2]) f hcs (List.cons_ne_nil _ _) (Nat.le_of_succ_le_succ hf)).trans
          (congrArg Except.ok (List.append_assoc acc [c.2] _)))

/-- **C18, general statement at the token level.**  For any k ≥ 1 token texts each of which parses as a property on its own,
    the parser applied to their concatenation yields exactly the k individual results, in order: no property takes
    anything from its neighbours, whatever the properties are (annotations, scopes, patterns, disjunctions, time bounds). -/
theorem parseFileToks_concat (chunks : List (List Tok × RawProperty))
    (h : ∀ c ∈ chunks, parsePropertyToks c.1 = .ok c.2) (hne : chunks ≠ []) :
    parseFileToks (fileToks chunks) = .ok (chunks.map (·.2)) := by
  unfold parseFileToks
  have := pFile_concat chunks [] ((fileToks chunks).length + 1) h hne (by have := (fileToks_starts chunks h).2; omega)
  simpa only [List.nil_append] using this

/-- **C18 at the entry points.**  If the tokens of a file text are, up to what the parser reads of a token (kind, text, keyword
    position), the tokens of k ≥ 1 texts each parsing as a property on its own, then the file parses to exactly the k
    properties built from those k results, in order, and fails exactly when building one of them fails (first error). -/
theorem parseSpecification_concat (s : String) (ts : List Tok) (chunks : List (List Tok × RawProperty))
    (hl : lex s = .ok ts) (hk : KEq ts (fileToks chunks))
    (h : ∀ c ∈ chunks, parsePropertyToks c.1 = .ok c.2) (hne : chunks ≠ []) :
    parseSpecification s = (chunks.map (·.2)).mapM buildProperty := by
  unfold parseSpecification
  rw [hl]
  simp only
  rw [parseFileToks_sim hk, parseFileToks_concat chunks h hne]
  simp only
  exact buildSpec_members _ (by cases chunks with | nil => exact absurd rfl hne | cons _ _ => simp)

/-- …and each of those members is what `parse_property` gives on its own text -/
theorem parseProperty_of_toks (s : String) (ts : List Tok) (c : List Tok × RawProperty)
    (hl : lex s = .ok ts) (hk : KEq ts c.1) (h : parsePropertyToks c.1 = .ok c.2) :
    parseProperty s = buildProperty c.2 := by
  unfold parseProperty
  rw [hl]
  simp only
  rw [parsePropertyToks_sim hk, h]

end Hpl
