import Hpl.Props.C03
import Hpl.Model.Rewrite.Refactor
/-!
# C16 — ASTs are immutable values: no API call changes an existing tree

In the implementation the attrs validators narrow the stored type of the child objects they are given, in place
(`_type_check(force=True)`), to the parameter type of their position. In the functional model the same step is
`castE child param`, and "the existing child object was altered" is "the node returned for that position differs from the
child that was passed". The theorems: on operands whose type set already lies inside the parameter type — which the C03
invariant `WT` guarantees for every child of every node at its own position — narrowing returns the operand itself
(`castE_stable`), hence each constructor returns a node around *the very children it was given* (`mkUn_stable` …
`mkQuant_children`), and re-entering the constructor of a well-typed node with its own children (`but()` / `evolve`, `cast`)
gives back the node itself (`rebuild_stable_un` … `rebuild_stable_range`). `negate` and `join` wrap boolean predicates without touching them.

Partial: that the other rewriting functions (simplify, split_and, refactor_reference, the this/var replacements,
canonical_form) only ever wrap existing sub-trees at positions whose parameter type contains their type set is not proved
function by function; it is what the C16 stream explores (snapshots around every call).
-/
namespace Hpl

/-- narrowing an operand whose type set is inside the target is the identity: the object is not altered -/
theorem castE_stable {e : Expr} {t : DataType} (hs : sub e.ty t) (hne : e.ty ≠ 0) : castE e t = .ok e := by
  unfold castE
  unfold sub at hs
  simp [hs, hne]

theorem castList_stable (t : DataType) : ∀ (es : ExprList), (∀ e ∈ es.toList, sub e.ty t ∧ e.ty ≠ 0) → castList t es = .ok es
  | .nil, _ => rfl
  | .cons e es, h => by
      have h1 := h e List.mem_cons_self
      -- `castList` unfolds by definition (`simp [castList]` is far slower to check)
      change (castE e t >>= fun e' => castList t es >>= _) = _
      rw [castE_stable h1.1 h1.2, castList_stable t es fun x hx => h x (List.mem_cons_of_mem _ hx)]
      rfl

/-- a unary operator built around an operand inside its parameter type leaves the operand as it is -/
theorem mkUn_stable {op : String} {d : UnDef} {a : Expr} (hd : findUn op = some d) (hs : sub a.ty d.param) (hne : a.ty ≠ 0) :
    mkUn op a = .ok (.un d.res op a) := by
  simp [mkUn, hd, castE_stable hs hne, bind, Except.bind, pure, Except.pure]

/-- a binary operator built around operands inside its parameter types (carrying the same type set where the parameters
    overlap, as `=`/`!=` demand) leaves both operands as they are -/
theorem mkBin_stable {op : String} {d : BinDef} {a b : Expr} (hd : findBin op = some d) (ha : sub a.ty d.p1) (hb : sub b.ty d.p2)
    (heq : d.p1 &&& d.p2 ≠ 0 → a.ty = b.ty) (hna : a.ty ≠ 0) (hnb : b.ty ≠ 0) :
    mkBin op a b = .ok (.bin d.res op a b) := by
  unfold mkBin
  simp only [hd, castE_stable ha hna, castE_stable hb hnb, bind, Except.bind]
  by_cases hov : d.p1 &&& d.p2 ≠ 0
  · have := heq hov
    have h1 : castE a b.ty = .ok a := castE_stable (by rw [this]; exact sub_refl _) hna
    have h2 : castE b a.ty = .ok b := castE_stable (by rw [this]; exact sub_refl _) hnb
    simp [hov, h1, h2, pure, Except.pure]
  · simp [hov, pure, Except.pure]

theorem access_and_ne {t : DataType} (hne : t ≠ 0) (hs : sub t T.ACCESS) : T.ACCESS &&& t ≠ 0 := by
  intro hz
  apply hne
  unfold sub at hs
  rw [← hs, Nat.and_comm]
  exact hz

theorem mkField_stable {m : Expr} {n : String} {t : DataType} (ht : T.ACCESS &&& t ≠ 0) (hs : sub m.ty T.MESSAGE) (hne : m.ty ≠ 0) :
    mkFieldT t m n = .ok (.field t m n) := by
  simp [mkFieldT, ht, castE_stable hs hne, bind, Except.bind, pure, Except.pure]

theorem mkIndex_stable {a i : Expr} {t : DataType} (ht : T.ACCESS &&& t ≠ 0) (ha : sub a.ty T.ARRAY) (hi : sub i.ty T.NUMBER)
    (hna : a.ty ≠ 0) (hni : i.ty ≠ 0) : mkIndexT t a i = .ok (.index t a i) := by
  simp [mkIndexT, ht, castE_stable ha hna, castE_stable hi hni, bind, Except.bind, pure, Except.pure]

theorem mkRange_stable {lo hi : Expr} {a b : Bool} (hl : sub lo.ty T.NUMBER) (hh : sub hi.ty T.NUMBER) (hnl : lo.ty ≠ 0) (hnh : hi.ty ≠ 0) :
    mkRange lo hi a b = .ok (.range T.RANGE lo hi a b) := by
  simp [mkRange, castE_stable hl hnl, castE_stable hh hnh, bind, Except.bind, pure, Except.pure]

theorem mkSet_stable {vs : ExprList} (h : ∀ e ∈ vs.toList, sub e.ty T.PRIMITIVE ∧ e.ty ≠ 0) : mkSet vs = .ok (.set T.SET vs) := by
  simp [mkSet, castList_stable T.PRIMITIVE vs h, bind, Except.bind, pure, Except.pure]

theorem mkQuant_ok_iff {q : Quant} {x : String} {d0 b0 e : Expr} : mkQuant q x d0 b0 = .ok e ↔
    ∃ d b u, castE d0 T.COMPOUND = .ok d ∧ castE b0 T.BOOL = .ok b ∧ d.preorder.any (isVarNamed x) = false ∧
      quantBodyCheck x (domainElemType d) b.preorder 0 = .ok u ∧ u ≠ 0 ∧ e = .quant T.BOOL q x d b := by
  refine ⟨mkQuant_ok, ?_⟩
  rintro ⟨d, b, u, hd, hb, hany, hu, hu0, rfl⟩
  simp [mkQuant, hd, hb, hany, hu, hu0, bind, Except.bind, pure, Except.pure]

/-- what a successful quantifier constructor has established of its (already narrowed) children -/
theorem mkQuant_facts {q : Quant} {x : String} {d b e : Expr} (hd : sub d.ty T.COMPOUND) (hb : sub b.ty T.BOOL)
    (hnd : d.ty ≠ 0) (hnb : b.ty ≠ 0) (h : mkQuant q x d b = .ok e) :
    d.preorder.any (isVarNamed x) = false ∧ (∃ u, quantBodyCheck x (domainElemType d) b.preorder 0 = .ok u ∧ u ≠ 0) ∧
      e = .quant T.BOOL q x d b := by
  obtain ⟨d', b', u, hd', hb', hany, hu, hu0, he⟩ := mkQuant_ok_iff.1 h
  rw [castE_stable hd hnd] at hd'
  rw [castE_stable hb hnb] at hb'
  cases hd'
  cases hb'
  exact ⟨hany, ⟨u, hu, hu0⟩, he⟩

/-- whenever a quantifier is accepted around a domain and a condition that are inside COMPOUND / BOOL, it holds exactly those -/
theorem mkQuant_children {q : Quant} {x : String} {d b e : Expr} (hd : sub d.ty T.COMPOUND) (hb : sub b.ty T.BOOL)
    (hnd : d.ty ≠ 0) (hnb : b.ty ≠ 0) (h : mkQuant q x d b = .ok e) : e = .quant T.BOOL q x d b :=
  (mkQuant_facts hd hb hnd hnb h).2.2

theorem castArgs_stable : ∀ (es : ExprList) (ps : List DataType),
    (∀ p ∈ List.zip es.tys ps, sub p.1 p.2 ∧ p.1 ≠ 0) → es.tys.length ≤ ps.length → castArgs es ps = .ok es
  | .nil, ps, _, _ => by cases ps <;> rfl
  | .cons e es, [], _, hl => nomatch hl
  | .cons e es, p :: ps, h, hl => by
      have h1 := h (e.ty, p) List.mem_cons_self
      change (castE e p >>= fun e' => castArgs es ps >>= _) = _
      rw [castE_stable h1.1 h1.2, castArgs_stable es ps (fun q hq => h q (List.mem_cons_of_mem _ hq)) (Nat.le_of_succ_le_succ hl)]
      rfl

/-! ## `but()` / `evolve` / `cast` on a well-typed node: re-entering the constructor returns the node itself -/

theorem WT_ne' (e : Expr) (h : WT e) : e.ty ≠ 0 := WT_ne e h

/-- rebuilding a well-typed operator node around its own operands (what `evolve` does when `but()` or `cast` copy a node)
    returns the same node: none of the shared operand objects is narrowed -/
theorem rebuild_stable_un (t : DataType) (op : String) (a : Expr) (h : WT (.un t op a)) : mkUn op a = .ok (.un t op a) := by
  obtain ⟨d, hd, rfl, hwa, hs⟩ := h
  exact mkUn_stable hd hs (WT_ne a hwa)

theorem rebuild_stable_bin (t : DataType) (op : String) (a b : Expr) (h : WT (.bin t op a b)) : mkBin op a b = .ok (.bin t op a b) := by
  obtain ⟨d, hd, rfl, hwa, hwb, hsa, hsb, heq⟩ := h
  exact mkBin_stable hd hsa hsb heq (WT_ne a hwa) (WT_ne b hwb)

theorem rebuild_stable_field (t : DataType) (m : Expr) (n : String) (h : WT (.field t m n)) : mkFieldT t m n = .ok (.field t m n) := by
  obtain ⟨hne, hsub, hwm, hsm⟩ := h
  exact mkField_stable (access_and_ne hne hsub) hsm (WT_ne m hwm)

theorem rebuild_stable_index (t : DataType) (a i : Expr) (h : WT (.index t a i)) : mkIndexT t a i = .ok (.index t a i) := by
  obtain ⟨hne, hsub, hwa, hwi, hsa, hsi⟩ := h
  exact mkIndex_stable (access_and_ne hne hsub) hsa hsi (WT_ne a hwa) (WT_ne i hwi)

theorem rebuild_stable_range (t : DataType) (lo hi : Expr) (a b : Bool) (h : WT (.range t lo hi a b)) :
    mkRange lo hi a b = .ok (.range t lo hi a b) := by
  obtain ⟨rfl, hwl, hwh, hsl, hsh⟩ := h
  exact mkRange_stable hsl hsh (WT_ne lo hwl) (WT_ne hi hwh)

/-- `cast` never alters the node it is called on: it returns the node itself, or a copy that differs in the stored type only -/
theorem cast_result (e e' : Expr) (t : DataType) (h : castE e t = .ok e') : e' = e ∨ (e' = e.withTy (e.ty &&& t) ∧ e.ty &&& t ≠ e.ty) := by
  obtain ⟨-, -, rfl⟩ := castE_ok h
  by_cases heq : e.ty &&& t = e.ty
  · exact .inl (by rw [heq, Expr.withTy_ty])
  · exact .inr ⟨rfl, heq⟩

/-! ## `negate` and `join` wrap the predicates they are given without altering them -/

theorem predWT_bool {e : Expr} (h : WTPred (.expr e)) : e.ty = T.BOOL := h.2.1

/-- `Not(a)` on an exactly boolean operand -/
theorem mkNot_accepts {a : Expr} (h : a.ty = T.BOOL) : mkNot a = .ok (.un T.BOOL Gen.NOT_OPERATOR a) :=
  mkUn_stable (d := ⟨"not", T.BOOL, T.BOOL⟩) (by decide) (by rw [h]; decide) (by rw [h]; decide)

theorem mkAnd_accepts {a b : Expr} (ha : a.ty = T.BOOL) (hb : b.ty = T.BOOL) : mkAnd a b = .ok (.bin T.BOOL Gen.AND_OPERATOR a b) :=
  mkBin_stable (d := ⟨"and", T.BOOL, T.BOOL, T.BOOL, true, true, true⟩) (by decide) (by rw [ha]; decide) (by rw [hb]; decide)
    (fun _ => by rw [ha, hb]) (by rw [ha]; decide) (by rw [hb]; decide)

theorem mkOr_accepts {a b : Expr} (ha : a.ty = T.BOOL) (hb : b.ty = T.BOOL) : mkOr a b = .ok (.bin T.BOOL Gen.OR_OPERATOR a b) :=
  mkBin_stable (d := ⟨"or", T.BOOL, T.BOOL, T.BOOL, true, true, true⟩) (by decide) (by rw [ha]; decide) (by rw [hb]; decide)
    (fun _ => by rw [ha, hb]) (by rw [ha]; decide) (by rw [hb]; decide)

theorem mkNot_stable (e : Expr) (h : e.ty = T.BOOL) : ∃ d, findUn Gen.NOT_OPERATOR = some d ∧ mkNot e = .ok (.un d.res Gen.NOT_OPERATOR e) :=
  ⟨⟨"not", T.BOOL, T.BOOL⟩, by decide, mkNot_accepts h⟩

theorem mkAnd_stable (a b : Expr) (ha : a.ty = T.BOOL) (hb : b.ty = T.BOOL) :
    ∃ d, findBin Gen.AND_OPERATOR = some d ∧ mkAnd a b = .ok (.bin d.res Gen.AND_OPERATOR a b) :=
  ⟨⟨"and", T.BOOL, T.BOOL, T.BOOL, true, true, true⟩, by decide, mkAnd_accepts ha hb⟩

end Hpl
