import Hpl.Props.C06j
/-!
# C06 / C18 — text-level round trip for properties: the printed text of a property tree scans and parses back to that tree
-/
namespace Hpl

theorem Lx.reqTrue {cs : List Char} {d d' : Nat} {e : Bool} {k : List Key} {P : List Char → Prop}
    (h : Lx cs d false k d' e P) : Lx cs d true k d' e P := fun rest hr g aw acc _ => h rest hr g aw acc (fun h => by cases h)

theorem nameEnd_space (xs : List Char) : NameEnd (' ' :: xs) := nameEnd_cons (by decide) (by decide)
theorem nameEnd_colon (xs : List Char) : NameEnd (':' :: xs) := nameEnd_cons (by decide) (by decide)

/-- one simple event as printed -/
theorem lexSimple (s : RawSimple) (hp : s.printable = true) (hl : s.lexOkB = true) :
    Lx s.chars 0 true (s.toks.map tokKey) 0 true (fun _ => True) := by
  obtain ⟨name, al, pred⟩ := s
  simp only [RawSimple.printable, Bool.and_eq_true] at hp
  simp only [RawSimple.lexOkB, Bool.and_eq_true] at hl
  cases pred with
  | none => simp at hl
  | some r =>
    simp only at hp hl
    have hname := lx_chan name.toList hl.1
    rw [String.ofList_toList] at hname
    have body := (lx_space 0).comp (lexPred r hp.2 (lexOk_of_B r hl.2)) rfl (fun _ _ => trivial)
    cases al with
    | none =>
      have h := Lx.comp hname body rfl (fun rest _ => nameEnd_space _)
      simp only [RawSimple.chars, RawSimple.toks, List.nil_append]
      refine h.keys ?_
      simp
    | some a =>
      simp only at hp
      have ha := lx_word0S a hp.1.2
      have h := hname.infix (lx_kw "as" 0 (by decide)) (ha.comp body rfl (fun _ _ => nameEnd_space _)) nameEnd_space
      simp only [RawSimple.chars, RawSimple.toks]
      refine (Lx.chars h ?_).keys ?_
      · simp [predChars]
      · simp

theorem lexAlts : ∀ (alts : List RawSimple), alts ≠ [] → (∀ s ∈ alts, s.printable = true) → (∀ s ∈ alts, s.lexOkB = true) →
    Lx (altsChars alts) 0 true ((altsToks alts).map tokKey) 0 true (fun _ => True)
  | [], h, _, _ => absurd rfl h
  | [s], _, hp, hl => by simpa [altsChars, altsToks] using lexSimple s (hp s (by simp)) (hl s (by simp))
  | s :: s2 :: rest, _, hp, hl => by
      have h1 := lexSimple s (hp s (by simp)) (hl s (by simp))
      have h2 := lexAlts (s2 :: rest) (by simp) (fun x hx => hp x (by simp [hx])) (fun x hx => hl x (by simp [hx]))
      have h := h1.infix (lx_kw "or" 0 (by decide)) h2 (fun _ => trivial)
      simp only [altsChars, altsToks]
      refine h.keys ?_
      simp

theorem lexEvent (e : RawEvent) (hp : e.printable = true) (hl : e.lexOkB = true) :
    Lx e.chars 0 true (e.toks.map tokKey) 0 true (fun _ => True) := by
  cases e with
  | simple s => exact lexSimple s hp hl
  | disj alts =>
    simp only [RawEvent.printable, Bool.and_eq_true, decide_eq_true_eq, List.all_eq_true] at hp
    simp only [RawEvent.lexOkB, List.all_eq_true] at hl
    have hne : alts ≠ [] := by intro hh; subst hh; simp at hp
    have h := Lx.comp (lx_c0 '(' (by decide)) (Lx.comp (lexAlts alts hne hp.2 hl) (lx_c0 ')' (by decide)) rfl (fun _ _ => trivial))
      rfl (fun _ _ => trivial)
    simp only [RawEvent.chars, RawEvent.toks]
    refine h.reqTrue.keys ?_
    simp

/-- the time bound as printed, followed by the end of the text or a line break -/
theorem lexTime (fmt : Rat → String) (mt : Option (Rat × TimeUnit)) (hl : timeLexOkB fmt mt = true) :
    Lx (timeChars fmt mt) 0 false ((timeToks fmt mt).map tokKey) 0 false NameEnd := by
  cases mt with
  | none => simpa [timeChars, timeToks] using lx_nil 0 false NameEnd
  | some qu =>
    obtain ⟨q, u⟩ := qu
    simp only [timeLexOkB, Bool.and_eq_true, bne_iff_ne, ne_eq] at hl
    have ht := lx_time (fmt q).toList (unitText u) (by cases u <;> simp [unitText]) hl.1 hl.2
    rw [String.ofList_toList] at ht
    have h := (lx_space 0).comp ((lx_kw "within" 0 (by decide)).afterWord ht) rfl (fun _ _ => trivial)
    simp only [timeChars, timeToks]
    refine h.keys ?_
    cases u <;> simp [unitTok, tokKey, unitText, wordT, mkTok]

theorem lexOpt (o : Option RawEvent) (hs : o.isSome = true) (hp : optPrintable o = true) (hl : optLexOkB o = true) :
    Lx (optChars o) 0 true ((optToks o).map tokKey) 0 true (fun _ => True) := by
  cases o with
  | none => cases hs
  | some e => exact lexEvent e hp hl

theorem lexScope (fmt : Rat → String) (p : RawProperty) (hp : p.printable fmt = true) (hl : p.lexOkB fmt = true) :
    Lx (scopeChars p) 0 true ((scopeToks p).map tokKey) 0 false NameEnd := by
  simp only [RawProperty.printable, Bool.and_eq_true] at hp
  simp only [RawProperty.lexOkB, Bool.and_eq_true] at hl
  obtain ⟨⟨⟨⟨⟨⟨⟨_, _⟩, hpb⟩, hpa⟩, hpt⟩, hptr⟩, hsk⟩, hpk⟩ := hp
  obtain ⟨⟨⟨⟨⟨_, hlb⟩, hla⟩, hlt⟩, hltr⟩, hltime⟩ := hl
  unfold scopeChars scopeToks
  cases hk : p.scopeKind with
  | global =>
    simp only
    exact ((lx_word0S "globally" (by decide)).keys (by simp))
  | after =>
    simp only [hk, Bool.and_eq_true] at hsk
    have h := (lx_kw "after" 0 (by decide)).afterWord (lexOpt _ hsk.1 hpa hla)
    exact (h.weaken (P' := NameEnd) (fun _ _ => trivial)).keys (by simp)
  | until_ =>
    simp only [hk, Bool.and_eq_true] at hsk
    have h := (lx_kw "until" 0 (by decide)).afterWord (lexOpt _ hsk.2 hpt hlt)
    exact (h.weaken (P' := NameEnd) (fun _ _ => trivial)).keys (by simp)
  | afterUntil =>
    simp only [hk, Bool.and_eq_true] at hsk
    have h := (lx_kw "after" 0 (by decide)).afterWord
      ((lexOpt _ hsk.1 hpa hla).infix (lx_kw "until" 0 (by decide)) (lexOpt _ hsk.2 hpt hlt) (fun _ => trivial))
    exact (h.weaken (P' := NameEnd) (fun _ _ => trivial)).keys (by simp)

theorem lexPattern (fmt : Rat → String) (p : RawProperty) (hp : p.printable fmt = true) (hl : p.lexOkB fmt = true) :
    Lx (patternChars p) 0 true ((patternToks p).map tokKey) 0 true (fun _ => True) := by
  simp only [RawProperty.printable, Bool.and_eq_true] at hp
  simp only [RawProperty.lexOkB, Bool.and_eq_true] at hl
  obtain ⟨⟨⟨⟨⟨⟨⟨_, _⟩, hpb⟩, hpa⟩, hpt⟩, hptr⟩, hsk⟩, hpk⟩ := hp
  obtain ⟨⟨⟨⟨⟨_, hlb⟩, hla⟩, hlt⟩, hltr⟩, hltime⟩ := hl
  have heb := lexEvent p.behaviour hpb hlb
  unfold patternChars patternToks
  cases hk : p.patternKind with
  | existence =>
    simp only
    exact ((lx_kw "some" 0 (by decide)).afterWord heb).keys (by simp)
  | absence =>
    simp only
    exact ((lx_kw "no" 0 (by decide)).afterWord heb).keys (by simp)
  | response | prevention =>
    simp only [hk] at hpk
    have hs : p.trigger.isSome = true := by
      cases htr : p.trigger with
      | none => rw [htr] at hpk; cases hpk
      | some _ => rfl
    exact ((lexOpt _ hs hptr hltr).infix (lx_kw _ 0 (by decide)) heb (fun _ => trivial)).keys (by simp)
  | requirement =>
    simp only [hk, Bool.and_eq_true] at hpk
    exact (heb.infix (lx_kw "requires" 0 (by decide)) (lexOpt _ hpk.1 hptr hltr) (fun _ => trivial)).keys (by simp)

/-- **the scanner reads the printed text of a property as the property's printed tokens** -/
theorem lexProperty (fmt : Rat → String) (p : RawProperty) (hp : p.printable fmt = true) (hl : p.lexOkB fmt = true) :
    Lx (p.chars fmt) 0 true ((p.toks fmt).map tokKey) 0 false NameEnd := by
  have hmd : p.metadata = [] := by
    simp only [RawProperty.lexOkB, Bool.and_eq_true, List.isEmpty_iff] at hl
    exact hl.1.1.1.1.1
  have htime : timeLexOkB fmt p.maxTime = true := by
    simp only [RawProperty.lexOkB, Bool.and_eq_true] at hl
    exact hl.2
  have h := Lx.comp (lexScope fmt p hp hl) (Lx.comp (lx_c0 ':' (by decide)) (Lx.comp (lx_space 0) (Lx.comp (lexPattern fmt p hp hl) (lexTime fmt _ htime)
    rfl (fun _ _ => trivial)) rfl (fun _ _ => trivial)) rfl (fun _ _ => trivial)) rfl (fun rest _ => nameEnd_colon _)
  unfold RawProperty.chars RawProperty.toks
  refine h.keys ?_
  simp [hmd, mdToks]

/-- **C06 / C18 on strings, properties (grammar and scanner)**: the printed text of a printable property tree — every event with its
    predicate, names that are complete channel tokens, a time amount that is a complete number — is scanned and parsed back to exactly
    that tree, and therefore to whatever AST the constructors build from it -/
theorem parse_printed_property (fmt : Rat → String) (p : RawProperty) (hp : p.printable fmt = true) (hl : p.lexOkB fmt = true) :
    parseProperty (String.ofList (p.chars fmt)) = buildProperty p := by
  obtain ⟨ts, hs, hk⟩ := scan_of_Lx (lexProperty fmt p hp hl) nameEnd_nil
  have hlex : lex (String.ofList (p.chars fmt)) = .ok ts := by
    unfold lex; simp only [String.toList_ofList]; exact hs
  have hparse : parsePropertyToks ts = .ok p := by
    rw [parsePropertyToks_sim (ts := p.toks fmt) hk]; exact parse_property_toks_roundtrip fmt p hp
  unfold parseProperty
  rw [hlex]
  simp only [hparse]

theorem nameEnd_newline (xs : List Char) : NameEnd ('\n' :: xs) := nameEnd_cons (by decide) (by decide)

/-- `str(specification)`: the printed properties, one per line -/
def specChars (fmt : Rat → String) : List RawProperty → List Char
  | [] => []
  | [p] => p.chars fmt
  | p :: ps => p.chars fmt ++ (['\n'] ++ specChars fmt ps)

theorem lexSpec (fmt : Rat → String) : ∀ (ps : List RawProperty), ps ≠ [] → (∀ p ∈ ps, p.printable fmt = true) → (∀ p ∈ ps, p.lexOkB fmt = true) →
    Lx (specChars fmt ps) 0 true ((specToks fmt ps).map tokKey) 0 false NameEnd
  | [], h, _, _ => absurd rfl h
  | [p], _, hp, hl => by
      simpa [specChars, specToks] using lexProperty fmt p (hp p (by simp)) (hl p (by simp))
  | p :: q :: rest, _, hp, hl => by
      have h1 := lexProperty fmt p (hp p (by simp)) (hl p (by simp))
      have h2 := lexSpec fmt (q :: rest) (by simp) (fun x hx => hp x (by simp [hx])) (fun x hx => hl x (by simp [hx]))
      have h := Lx.comp h1 (Lx.comp (lx_ws (c := '\n') rfl 0) h2 rfl (fun _ _ => trivial)) rfl (fun rest _ => nameEnd_newline _)
      simp only [specChars]
      refine h.keys ?_
      simp [specToks]

/-- **C18 on strings (grammar and scanner)**: a file of printed properties, one per line, is scanned and parsed back to exactly
    those property trees, in order -/
theorem parse_printed_file (fmt : Rat → String) (ps : List RawProperty) (hne : ps ≠ []) (hp : ∀ p ∈ ps, p.printable fmt = true)
    (hl : ∀ p ∈ ps, p.lexOkB fmt = true) : parseSpecification (String.ofList (specChars fmt ps)) = buildSpec ps := by
  obtain ⟨ts, hs, hk⟩ := scan_of_Lx (lexSpec fmt ps hne hp hl) nameEnd_nil
  have hlex : lex (String.ofList (specChars fmt ps)) = .ok ts := by
    unfold lex; simp only [String.toList_ofList]; exact hs
  have hparse : parseFileToks ts = .ok ps := by
    rw [parseFileToks_sim (ts := specToks fmt ps) hk]; exact parse_file_toks_roundtrip fmt ps hne hp
  unfold parseSpecification
  rw [hlex]
  simp only [hparse]

end Hpl
