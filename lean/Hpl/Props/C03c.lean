import Hpl.Props.C03b
import Hpl.Props.C10
/-!
# C03 — `split_and`, `refactor_reference`, `negate` and `join` hand out well-typed trees

Every result of the models of `hpl.rewrite.split_and` / `refactor_reference` and of `HplPredicate.negate` / `join` on
well-typed input is well-typed: each is a sub-tree of the input, a literal, or built by a smart constructor.
-/
namespace Hpl

theorem WT_quant_inv {t : DataType} {q : Quant} {x : String} {d b : Expr} (h : WT (.quant t q x d b)) : WT d ∧ WT b := ⟨h.2.1, h.2.2.1⟩

theorem trueLit_WT : WT trueLit := rfl

theorem mkForall_WT {x : String} {d p e : Expr} (h : mkForall x d p = .ok e) (hd : WT d) (hp : WT p) : WT e := mkQuant_WT h hd hp

theorem emptyTest_WT {d e : Expr} (h : emptyTest d = .ok e) (hd : WT d) : WT e := by
  obtain ⟨a, ha, h⟩ := bind_ok h
  exact mkBin_WT h (mkCall_WT ha ⟨hd, trivial⟩) rfl

theorem splitHalf_WT {x : String} {d a e : Expr} (h : splitHalf x d a = .ok e) (hd : WT d) (ha : WT a) : WT e := by
  rcases ite_eq h with ⟨-, h⟩ | ⟨-, h⟩
  · exact mkForall_WT h hd ha
  · obtain ⟨t, ht, h⟩ := bind_ok h
    exact mkBin_WT h (emptyTest_WT ht hd) ha

structure SplitTyped (f : Nat) : Prop where
  pre : ∀ e r, presplit f e = .ok r → WT e → WT r
  nt : ∀ neg phi r, splitNot f neg phi = .ok r → WT neg → WT phi → WT r
  qt : ∀ quant q x d phi r, splitQuant f quant q x d phi = .ok r → WT quant → WT d → WT phi → WT r

theorem splitTyped : ∀ f, SplitTyped f
  | 0 => ⟨fun _ _ h => (by cases h), fun _ _ _ h => (by cases h), fun _ _ _ _ _ _ h => (by cases h)⟩
  | f + 1 => by
    have ih := splitTyped f
    refine ⟨?_, ?_, ?_⟩
    · intro e r h hw
      rcases presplit_ok h with ⟨rfl, -⟩ | ⟨t, phi, rfl, hr⟩ | ⟨t, q, x, d, phi, rfl, hr⟩
      · exact hw
      · exact ih.nt _ _ _ hr hw (WT_un_inv hw)
      · exact ih.qt _ _ _ _ _ _ hr hw (WT_quant_inv hw).1 (WT_quant_inv hw).2
    · intro neg phi r h hn hp
      rcases splitNot_ok h with ⟨rfl, -⟩ | ⟨t, p, rfl, hr⟩ | ⟨t, a, b, na, nb, rfl, hna, hnb, hr⟩ | ⟨t, a, b, nb, rfl, hnb, hr⟩ |
        ⟨t, x, d, p, np, q, rfl, hnp, -, hq, td, tb, rfl, hr⟩
      · exact hn
      · exact ih.pre _ _ hr (WT_un_inv hp)
      · exact mkBin_WT hr (mkNot_WT hna (WT_bin_inv hp).1) (mkNot_WT hnb (WT_bin_inv hp).2)
      · exact mkBin_WT hr (WT_bin_inv hp).1 (mkNot_WT hnb (WT_bin_inv hp).2)
      · have hwq := mkForall_WT hq (WT_quant_inv hp).1 (mkNot_WT hnp (WT_quant_inv hp).2)
        exact ih.qt _ _ _ _ _ _ hr hwq (WT_quant_inv hwq).1 (WT_quant_inv hwq).2
    · intro quant q x d phi r h hq hd hp
      rcases splitQuant_ok h with ⟨-, phi', hphi, ⟨t, a, b, qa, qb, rfl, hqa, hqb, hr⟩ | ⟨rfl, -⟩⟩ | ⟨-, rfl⟩
      · have wab := WT_bin_inv (ih.pre _ _ hphi hp)
        exact mkBin_WT hr (splitHalf_WT hqa hd wab.1) (splitHalf_WT hqb hd wab.2)
      · exact hq
      · exact hq

theorem splitLoop_WT : ∀ (f : Nat) (stack acc : List Expr) (l : List Expr), splitLoop f stack acc = .ok l →
    (∀ e ∈ stack, WT e) → (∀ e ∈ acc, WT e) → ∀ e ∈ l, WT e
  | 0, _, _, l, h, _, _ => by cases h
  | f + 1, stack, acc, l, h, hs, ha => by
      rcases splitLoop_succ h with ⟨-, h⟩ | ⟨e, rest, rfl, hcase⟩
      · cases h; exact ha
      obtain ⟨he, hst⟩ := List.forall_mem_cons.1 hs
      rcases hcase with ⟨-, h⟩ | ⟨-, h⟩ | ⟨x, -, h⟩ | ⟨e', he', ⟨t, a, b, rfl, h⟩ | ⟨-, h⟩⟩
      · exact splitLoop_WT f rest acc l h hst ha
      · cases h
      · cases h
      · have wab := WT_bin_inv ((splitTyped _).pre _ _ he' he)
        exact splitLoop_WT f _ acc l h (List.forall_mem_cons.2 ⟨wab.2, List.forall_mem_cons.2 ⟨wab.1, hst⟩⟩) ha
      · exact splitLoop_WT f rest _ l h hst
          (List.forall_mem_append.2 ⟨ha, List.forall_mem_singleton.2 ((splitTyped _).pre _ _ he' he)⟩)

/-- **C03 for `split_and`**: every returned conjunct is well-typed -/
theorem splitAnd_WT (e : Expr) (l : List Expr) (h : splitAnd e = .ok l) (hw : WT e) : ∀ x ∈ l, WT x :=
  splitLoop_WT _ [e] [] l h (by simpa using hw) (by simp)

/-! ## `refactor_reference` -/

theorem refQuantAnd_WT {alias x : String} {quant d a b : Expr} {r : Expr × Expr} (h : refQuantAnd alias x quant d a b = .ok r)
    (hq : WT quant) (hd : WT d) (ha : WT a) (hb : WT b) : WT r.1 ∧ WT r.2 := by
  rcases refQuantAnd_ok h with ⟨qa, qb, hqa, hqb, ⟨-, -, rfl⟩ | ⟨-, -, rfl⟩⟩ | ⟨-, -, rfl⟩
  · exact ⟨splitHalf_WT hqb hd hb, splitHalf_WT hqa hd ha⟩
  · exact ⟨splitHalf_WT hqa hd ha, splitHalf_WT hqb hd hb⟩
  · exact ⟨trueLit_WT, hq⟩

theorem refAnd_WT {alias : String} {op a b : Expr} {r : Expr × Expr} (h : refAnd alias op a b = .ok r)
    (ho : WT op) (ha : WT a) (hb : WT b) : WT r.1 ∧ WT r.2 := by
  rcases refAnd_ok h with ⟨-, -, rfl⟩ | ⟨-, -, rfl⟩ | ⟨-, -, rfl⟩
  · exact ⟨hb, ha⟩
  · exact ⟨ha, hb⟩
  · exact ⟨trueLit_WT, ho⟩

theorem refQuant_WT {alias : String} {quant : Expr} {r : Expr × Expr} (h : refQuant alias quant = .ok r) (hq : WT quant) :
    WT r.1 ∧ WT r.2 := by
  rcases refQuant_ok h with rfl | ⟨t, x, d, body, rfl, -, ⟨t2, a, b, rfl, hr⟩ |
    ⟨t2, t3, a, b, na, nb, t', a', b', rfl, hna, hnb, hc, hr⟩⟩
  · exact ⟨trueLit_WT, hq⟩
  · have wdb := WT_quant_inv hq
    exact refQuantAnd_WT hr hq wdb.1 (WT_bin_inv wdb.2).1 (WT_bin_inv wdb.2).2
  · have wdb := WT_quant_inv hq
    have wab := WT_bin_inv (WT_un_inv wdb.2)
    have hwe := WT_bin_inv (mkBin_WT hc (mkNot_WT hna wab.1) (mkNot_WT hnb wab.2))
    exact refQuantAnd_WT hr hq wdb.1 hwe.1 hwe.2

structure RefTyped (alias : String) (f : Nat) : Prop where
  ex : ∀ e r, refExpr alias f e = .ok r → WT e → WT r.1 ∧ WT r.2
  ng : ∀ neg e r, refNeg alias f neg e = .ok r → WT neg → WT e → WT r.1 ∧ WT r.2

theorem refTyped (alias : String) : ∀ f, RefTyped alias f
  | 0 => ⟨fun _ _ h => (by cases h), fun _ _ _ h => (by cases h)⟩
  | f + 1 => by
    have ih := refTyped alias f
    refine ⟨?_, ?_⟩
    · intro e r h hw
      rcases refExpr_ok h with ⟨-, rfl⟩ | ⟨-, rfl | hr | ⟨t, a, rfl, hr⟩ | ⟨t, a, b, rfl, hr⟩⟩
      · exact ⟨hw, trueLit_WT⟩
      · exact ⟨trueLit_WT, hw⟩
      · exact refQuant_WT hr hw
      · exact ih.ng _ _ _ hr hw (WT_un_inv hw)
      · exact refAnd_WT hr hw (WT_bin_inv hw).1 (WT_bin_inv hw).2
    · intro neg e r h hn he
      rcases refNeg_ok h with rfl | ⟨t, a, rfl, hr⟩ | ⟨t, x, d, p, np, q, rfl, hnp, hq, hr⟩ |
        ⟨t, a, b, nb, t', a', b', rfl, hnb, hc, hr⟩ | ⟨t, a, b, na, nb, t', a', b', rfl, hna, hnb, hc, hr⟩
      · exact ⟨trueLit_WT, hn⟩
      · exact ih.ex _ _ hr (WT_un_inv he)
      · exact refQuant_WT hr (mkForall_WT hq (WT_quant_inv he).1 (mkNot_WT hnp (WT_quant_inv he).2))
      · have hwc := mkBin_WT hc (WT_bin_inv he).1 (mkNot_WT hnb (WT_bin_inv he).2)
        exact refAnd_WT hr hwc (WT_bin_inv hwc).1 (WT_bin_inv hwc).2
      · have hwc := mkBin_WT hc (mkNot_WT hna (WT_bin_inv he).1) (mkNot_WT hnb (WT_bin_inv he).2)
        exact refAnd_WT hr hwc (WT_bin_inv hwc).1 (WT_bin_inv hwc).2

/-- **C03 for `refactor_reference`** (expressions): both parts are well-typed -/
theorem refactorExpr_WT (e : Expr) (alias : String) (r : Expr × Expr) (h : refactorExpr e alias = .ok r) (hw : WT e) :
    WT r.1 ∧ WT r.2 := (refTyped alias _).ex _ _ h hw

/-- … and predicates -/
theorem refactorPred_WT (p : Pred) (alias : String) (r : Pred × Pred) (h : refactorPred p alias = .ok r) (hw : WTPred p) :
    WTPred r.1 ∧ WTPred r.2 := by
  cases p with
  | expr e =>
    obtain ⟨⟨e1, e2⟩, he, h⟩ := bind_ok h
    obtain ⟨p1, hp1, h⟩ := bind_ok h
    obtain ⟨p2, hp2, h⟩ := bind_ok h
    cases h
    have := refactorExpr_WT e alias _ he hw.1
    exact ⟨predFromExpr_WT hp1 this.1, predFromExpr_WT hp2 this.2⟩
  | vtrue => cases h; exact ⟨trivial, trivial⟩
  | vfalse => cases h; exact ⟨trivial, trivial⟩

/-! ## `negate`, `join` -/

theorem negate_WT (p q : Pred) (h : p.negate = .ok q) (hw : WTPred p) : WTPred q := by
  cases p with
  | expr e =>
    have hnot : (mkNot e >>= mkPred) = .ok q → WTPred q := by
      intro h
      obtain ⟨n, hn, h⟩ := bind_ok h
      exact mkPred_WT h (mkNot_WT hn hw.1)
    cases e with
    | un t op a =>
      rcases ite_eq h with ⟨-, h⟩ | ⟨-, h⟩
      · exact mkPred_WT h (WT_un_inv hw.1)
      · exact hnot h
    | _ => exact hnot h
  | vtrue => cases h; trivial
  | vfalse => cases h; trivial

theorem join_WT (p p' q : Pred) (h : p.join p' = .ok q) (hw : WTPred p) (hw' : WTPred p') : WTPred q := by
  cases p with
  | expr e =>
    cases p' with
    | expr e' =>
      obtain ⟨c, hc, h⟩ := bind_ok h
      exact mkPred_WT h (mkBin_WT hc hw.1 hw'.1)
    | vtrue => cases h; exact hw
    | vfalse => cases h; trivial
  | vtrue => cases h; exact hw'
  | vfalse => cases h; trivial

/-! ## substitutions (`replace_this_with_var`, `replace_var_with_this`, event alias normalisation) -/

theorem subst_WT {other : Expr} (ho : WT other) :
    (∀ test e e', substE test other e = .ok e' → WT e → WT e') ∧
    (∀ test es es', substL test other es = .ok es' → WTList es → WTList es') ∧
    (∀ a e e', substV a other e = .ok e' → WT e → WT e') ∧
    (∀ a es es', substVL a other es = .ok es' → WTList es → WTList es') :=
  subst_induct (P := fun e e' => WT e → WT e') (PL := fun es es' => WTList es → WTList es')
    (fun _ _ => ho) (fun _ hw => hw)
    (fun ih hc hw => ⟨hw.1, castList_WT hc (ih (WT_set_inv hw))⟩)
    (fun ihl ihh hcl hch hw =>
      ⟨hw.1, castE_WT hcl (ihl hw.2.1), castE_WT hch (ihh hw.2.2.1), (castE_sub hcl).1, (castE_sub hch).1⟩)
    (fun ihd ihb h hw => mkQuant_WT h (ihd hw.2.1) (ihb hw.2.2.1))
    (fun ih h hw => mkUn_WT h (ih (WT_un_inv hw)))
    (fun iha ihb h hw => mkBin_WT h (iha (WT_bin_inv hw).1) (ihb (WT_bin_inv hw).2))
    (fun ih h hw => mkCall_WT h (ih (WT_call_inv hw)))
    (fun ih h hw => mkFieldT_WT h (ih hw.2.2.1) ⟨hw.1, hw.2.1⟩)
    (fun iha ihi h hw => mkIndexT_WT h (iha hw.2.2.1) (ihi hw.2.2.2.1) ⟨hw.1, hw.2.1⟩)
    (fun _ => trivial) (fun ihe ihes hw => ⟨ihe hw.1, ihes hw.2⟩)

theorem substE_WT (test : Expr → Bool) (other : Expr) (ho : WT other) : ∀ (e r : Expr), substE test other e = .ok r → WT e → WT r :=
  (subst_WT ho).1 test
theorem substL_WT (test : Expr → Bool) (other : Expr) (ho : WT other) : ∀ (es rs : ExprList), substL test other es = .ok rs → WTList es → WTList rs :=
  (subst_WT ho).2.1 test
theorem substV_WT (nm : String) (other : Expr) (ho : WT other) : ∀ (e r : Expr), substV nm other e = .ok r → WT e → WT r :=
  (subst_WT ho).2.2.1 nm
theorem substVL_WT (nm : String) (other : Expr) (ho : WT other) : ∀ (es rs : ExprList), substVL nm other es = .ok rs → WTList es → WTList rs :=
  (subst_WT ho).2.2.2 nm

theorem var_item_WT (a : String) : WT (.var T.ITEM a) := ⟨by decide, sub_refl _⟩
theorem this_WT : WT (.this T.MESSAGE) := rfl

/-- **C03 for the this/var replacements** -/
theorem replaceThisWithVarE_WT (e r : Expr) (a : String) (h : replaceThisWithVarE e a = .ok r) (hw : WT e) : WT r :=
  substE_WT _ _ (var_item_WT a) e r h hw
theorem replaceVarWithThisE_WT (e r : Expr) (a : String) (h : replaceVarWithThisE e a = .ok r) (hw : WT e) : WT r :=
  substV_WT _ _ this_WT e r h hw

theorem replaceP_WT {S : Expr → M Expr} (hS : ∀ e e', S e = .ok e' → WT e → WT e') {p q : Pred}
    (h : (match p with
      | .expr e => do let e' ← S e; if e' = e then pure (Pred.expr e) else mkPred e'
      | p => .ok p) = .ok q) (hw : WTPred p) : WTPred q := by
  cases p with
  | expr e =>
    obtain ⟨e', he, h⟩ := bind_ok h
    split at h
    · cases h; exact hw
    · exact mkPred_WT h (hS e e' he hw.1)
  | vtrue => cases h; trivial
  | vfalse => cases h; trivial

theorem replaceThisWithVarP_WT (p q : Pred) (a : String) (h : replaceThisWithVarP p a = .ok q) (hw : WTPred p) : WTPred q :=
  replaceP_WT (S := fun e => e.replaceSelf (.var T.ITEM a)) (substE_WT _ _ (var_item_WT a)) h hw

theorem replaceVarWithThisP_WT (p q : Pred) (a : String) (h : replaceVarWithThisP p a = .ok q) (hw : WTPred p) : WTPred q :=
  replaceP_WT (S := fun e => e.replaceVar a (.this T.MESSAGE)) (substV_WT _ _ this_WT) h hw

end Hpl
