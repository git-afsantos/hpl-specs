import Hpl.Props.C15
/-!
# C15 — `iterate()` on properties, scopes, patterns, events and predicates visits every node once, parents first, left to right
-/
namespace Hpl

def Pred.nodes (p : Pred) : List Node := .pred p :: (match p with | .expr e => e.preorder.map .expr | _ => [])

def Event.nodes : Event → List Node
  | .simple n a p => .event (.simple n a p) :: p.nodes
  | .disj a b => .event (.disj a b) :: (a.nodes ++ b.nodes)

/-- the nodes below (and including) an AST object in pre-order, children in source order: property, scope, activator, terminator,
    pattern, trigger, behaviour; an event before its alternatives / its predicate; a predicate before its expression -/
def Node.preorder : Node → List Node
  | .prop p => .prop p :: ((.scope p.scope :: (optL p.scope.activator ++ optL p.scope.terminator).flatMap Event.nodes) ++
                           (.pattern p.pattern :: (optL p.pattern.trigger ++ [p.pattern.behaviour]).flatMap Event.nodes))
  | .scope s => .scope s :: (optL s.activator ++ optL s.terminator).flatMap Event.nodes
  | .pattern p => .pattern p :: (optL p.trigger ++ [p.behaviour]).flatMap Event.nodes
  | .event e => e.nodes
  | .pred p => p.nodes
  | .expr e => e.preorder.map .expr

def nsizes (l : List Node) : Nat := (l.map Node.size).sum

theorem flatMap_map_expr (l : List Expr) : (l.map Node.expr).flatMap Node.preorder = (l.flatMap Expr.preorder).map Node.expr := by
  induction l with
  | nil => rfl
  | cons x xs ih => simp [List.flatMap_cons, Node.preorder, ih]

theorem nsizes_map_expr (l : List Expr) : nsizes (l.map Node.expr) = sizes l := by
  induction l with
  | nil => rfl
  | cons x xs ih => simp only [nsizes, sizes, List.map_cons, List.sum_cons, Node.size] at ih ⊢; omega

theorem flatMap_map_event (l : List Event) : (l.map Node.event).flatMap Node.preorder = l.flatMap Event.nodes := by
  induction l with
  | nil => rfl
  | cons x xs ih => simp [List.flatMap_cons, Node.preorder, ih]

theorem nsizes_map_event (l : List Event) : nsizes (l.map Node.event) = (l.map Event.nsize).sum := by
  induction l with
  | nil => rfl
  | cons x xs ih => simp only [nsizes, List.map_cons, List.sum_cons, Node.size] at ih ⊢; omega

theorem Node.preorder_children (n : Node) : n.preorder = n :: n.children.flatMap Node.preorder := by
  cases n with
  | prop p =>
    simp only [Node.preorder, Node.children, List.flatMap_cons, List.flatMap_nil, List.append_nil, flatMap_map_event]
  | scope s => simp only [Node.preorder, Node.children, flatMap_map_event]
  | pattern p => simp only [Node.preorder, Node.children, flatMap_map_event]
  | event e =>
    cases e with
    | simple nm a p => simp [Node.preorder, Node.children, Event.nodes]
    | disj a b => simp [Node.preorder, Node.children, Event.nodes]
  | pred p =>
    cases p with
    | expr e => simp [Node.preorder, Node.children, Pred.nodes]
    | vtrue => simp [Node.preorder, Node.children, Pred.nodes]
    | vfalse => simp [Node.preorder, Node.children, Pred.nodes]
  | expr e =>
    simp only [Node.preorder, Node.children, flatMap_map_expr]
    rw [Expr.preorder_children e]; simp

theorem Node.size_children (n : Node) : n.size = 1 + nsizes n.children := by
  cases n with
  | prop p =>
    simp only [Node.size, Node.children, nsizes, List.map_cons, List.map_nil, List.sum_cons, List.sum_nil]; omega
  | scope s => simp only [Node.size, Node.children, nsizes_map_event]
  | pattern p => simp only [Node.size, Node.children, nsizes_map_event]
  | event e =>
    cases e with
    | simple nm a p => cases p <;> simp [Node.size, Node.children, Event.nsize, nsizes] <;> omega
    | disj a b => simp [Node.size, Node.children, Event.nsize, nsizes]; omega
  | pred p => cases p <;> simp [Node.size, Node.children, nsizes]
  | expr e =>
    simp only [Node.size, Node.children, nsizes_map_expr]
    exact Hpl.size_children e

/-- **C15 (properties, events, predicates)**: `iterate()` of any AST object below a property is its pre-order -/
theorem Node.iterate_eq_preorder (n : Node) : n.iterate = n.preorder := by
  rw [Node.iterate, worklist_preorder Node.children Node.size Node.preorder nodeIterLoop (fun _ _ => rfl) (fun _ _ _ _ => rfl)
    Node.size_children Node.preorder_children]
  · simp
  · simp

/-- every node is visited exactly once: the number of visited nodes is the number of nodes -/
theorem Node.iterate_length_prop (p : Property) : (Node.prop p).iterate.length = (Node.prop p).preorder.length := by
  rw [Node.iterate_eq_preorder]

end Hpl
