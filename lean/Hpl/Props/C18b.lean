import Hpl.Spec.GrammarProp
import Hpl.Props.C01d
/-!
# C01 / C18 — the property and file parsers read tokens only through their keys

For each property-level parser function, what a successful call says about its input (`pEvent_ok`, `pPattern_ok`, …) and the
equations that compute it on such input.  Then `parsePropertyToks_sim`, `parseFileToks_sim`: token sequences that agree on `tokKey`
give the same property trees (or are both rejected): white space between tokens never influences the result at property and file
level either.
-/
namespace Hpl

theorem isWordS_other {t : Tok} {a b : String} (h : isWordS t a = true) (hab : a ≠ b) : isWordS t b = false := by
  simp only [isWordS, Bool.and_eq_true, beq_iff_eq] at h
  simp only [isWordS, h.1, h.2, beq_self_eq_true, Bool.true_and, beq_eq_false_iff_ne]
  exact hab

theorem key_isWordS {t' t : Tok} (hk : tokKey t' = tokKey t) (s : String) : isWordS t' s = isWordS t s := by
  simp only [isWordS, key_kind hk, key_text hk]

theorem bind_ok_pair {α β : Type} {x : PR (α × List Tok)} {k : α × List Tok → PR β} {b : β} (h : (x >>= k) = .ok b) :
    ∃ a rs, x = .ok (a, rs) ∧ k (a, rs) = .ok b :=
  let ⟨(a, rs), h1, h2⟩ := bind_ok h
  ⟨a, rs, h1, h2⟩

theorem bind_ok_eq {α β : Type} {x : PR α} {v : α} (hx : x = .ok v) (k : α → PR β) : (x >>= k) = k v := by
  rw [hx]; rfl

theorem ok_pair_inj {α : Type} {a b : α} {x y : List Tok} (h : (Except.ok (a, x) : PR (α × List Tok)) = .ok (b, y)) : a = b ∧ x = y :=
  Prod.mk.inj (Except.ok.inj h)

theorem pure_pair_inj {α : Type} {a b : α} {x y : List Tok} (h : (pure (a, x) : PR (α × List Tok)) = .ok (b, y)) : a = b ∧ x = y :=
  ok_pair_inj h

theorem bite_eq {α : Type} {b : Bool} {x y z : α} (h : (if b then x else y) = z) : b = true ∧ x = z ∨ b = false ∧ y = z := by
  cases b
  · exact .inr ⟨rfl, h⟩
  · exact .inl ⟨rfl, h⟩

theorem bite_neg {α : Type} {b : Bool} (h : b = false) (x y : α) : (if b then x else y) = y := by
  rw [h]; rfl

def NoHead (p : Tok → Bool) (ts : List Tok) : Prop := ∀ t tl, ts = t :: tl → p t = false

theorem NoHead.nil (p : Tok → Bool) : NoHead p [] := fun _ _ h => by cases h

theorem NoHead.cons {p : Tok → Bool} {t : Tok} (h : p t = false) (tl : List Tok) : NoHead p (t :: tl) :=
  fun _ _ he => by cases he; exact h

theorem NoHead.append {p : Tok → Bool} {ts more : List Tok} (h : NoHead p ts) (hm : ts = [] → NoHead p more) : NoHead p (ts ++ more) := by
  cases ts with
  | nil => exact hm rfl
  | cons t tl => exact NoHead.cons (h t tl rfl) _

theorem pPredicate_ok {ts : List Tok} {r : Raw} {rest : List Tok} (h : pPredicate ts = .ok (r, rest)) :
    ∃ t r0 c, ts = t :: r0 ∧ isSym t "{" = true ∧ pCondition (parseFuel ts) r0 = .ok (r, c :: rest) ∧ isSym c "}" = true := by
  obtain ⟨t, r0, rfl, ho, h⟩ := expect_ok h
  obtain ⟨a, ts', h1, h2⟩ := bind_ok_pair h
  obtain ⟨c, rest2, rfl, hc, h2⟩ := expect_ok h2
  obtain ⟨rfl, rfl⟩ := pure_pair_inj h2
  exact ⟨t, r0, c, rfl, ho, h1, hc⟩

theorem pPredicate_of {t c : Tok} {r0 rest : List Tok} {r : Raw} (ho : isSym t "{" = true)
    (h : pCondition (parseFuel (t :: r0)) r0 = .ok (r, c :: rest)) (hc : isSym c "}" = true) : pPredicate (t :: r0) = .ok (r, rest) :=
  (if_pos ho).trans ((bind_ok_eq h _).trans (if_pos hc))

/-- the part of an event after its name and alias -/
def pEventBody (name : String) (al : Option String) (ts : List Tok) : PR (RawSimple × List Tok) :=
  match ts with
  | b :: _ => if isSym b "{" then do let (p, r) ← pPredicate ts; pure (⟨name, al, some p⟩, r) else .ok (⟨name, al, none⟩, ts)
  | [] => .ok (⟨name, al, none⟩, ts)

/-- `pEvent`, written as a decision tree -/
def pEvent' (ts : List Tok) : PR (RawSimple × List Tok) :=
  match ts with
  | n :: rest =>
    if n.kind == .word && isChannelName n.text then
      match rest with
      | a :: rest1 =>
        if isKw a "as" then
          (match rest1 with
           | v :: r => if v.kind == .word && isCName v.text then pEventBody n.text (some v.text) r else perr
           | [] => perr)
        else pEventBody n.text none rest
      | [] => pEventBody n.text none rest
    else perr
  | [] => perr

theorem pEvent_eq (ts : List Tok) : pEvent ts = pEvent' ts := by
  unfold pEvent pEvent'
  -- with the tests replaced by their values both sides compute to the same
  obtain _ | ⟨n, rest⟩ := ts
  · rfl
  dsimp only
  generalize (n.kind == .word && isChannelName n.text) = N
  cases N
  · rfl
  obtain _ | ⟨a, _ | ⟨v, r⟩⟩ := rest
  · rfl
  · cases isKw a "as" <;> rfl
  · dsimp only
    cases hA : isKw a "as" with
    | false => exact (if_pos rfl).trans ((bite_neg hA _ _).trans rfl)
    | true =>
      generalize (v.kind == .word) = K
      generalize isCName v.text = C
      -- without an alias the first alternative asks for `as` again, under a name of its own
      cases K <;> cases C
      case true.true => cases r <;> rfl
      all_goals exact (if_pos rfl).trans ((if_pos hA).trans rfl)

theorem pEventBody_ok {name : String} {al : Option String} {ts : List Tok} {s : RawSimple} {rest : List Tok}
    (h : pEventBody name al ts = .ok (s, rest)) :
    (∃ p, pPredicate ts = .ok (p, rest) ∧ s = ⟨name, al, some p⟩) ∨
    (NoHead (isSym · "{") ts ∧ s = ⟨name, al, none⟩ ∧ rest = ts) := by
  cases ts with
  | nil =>
    obtain ⟨rfl, rfl⟩ := ok_pair_inj h
    exact .inr ⟨NoHead.nil _, rfl, rfl⟩
  | cons b y =>
    rcases bite_eq h with ⟨_, h⟩ | ⟨hb, h⟩
    · obtain ⟨p, r, h1, h2⟩ := bind_ok_pair h
      obtain ⟨rfl, rfl⟩ := pure_pair_inj h2
      exact .inl ⟨p, h1, rfl⟩
    · obtain ⟨rfl, rfl⟩ := ok_pair_inj h
      exact .inr ⟨NoHead.cons hb _, rfl, rfl⟩

theorem pEventBody_none {name : String} {al : Option String} {ts : List Tok} (h : NoHead (isSym · "{") ts) :
    pEventBody name al ts = .ok (⟨name, al, none⟩, ts) := by
  cases ts with
  | nil => rfl
  | cons b y => exact bite_neg (h b y rfl) _ _

theorem pEventBody_some {name : String} {al : Option String} {ts : List Tok} {p : Raw} {rest : List Tok}
    (h : pPredicate ts = .ok (p, rest)) : pEventBody name al ts = .ok (⟨name, al, some p⟩, rest) := by
  obtain ⟨t, r0, c, rfl, ho, _, _⟩ := pPredicate_ok h
  exact (if_pos ho).trans (bind_ok_eq h _)

theorem pEvent_ok {ts : List Tok} {s : RawSimple} {rest : List Tok} (h : pEvent ts = .ok (s, rest)) :
    ∃ n r0, ts = n :: r0 ∧ n.kind = .word ∧ isChannelName n.text = true ∧
      ((∃ a v r2, r0 = a :: v :: r2 ∧ isKw a "as" = true ∧ v.kind = .word ∧ isCName v.text = true ∧
          pEventBody n.text (some v.text) r2 = .ok (s, rest)) ∨
       (NoHead (isKw · "as") r0 ∧ pEventBody n.text none r0 = .ok (s, rest))) := by
  rw [pEvent_eq] at h
  cases ts with
  | nil => cases h
  | cons n r0 =>
    obtain ⟨hn, h⟩ := ite_perr h
    simp only [Bool.and_eq_true, beq_iff_eq] at hn
    refine ⟨n, r0, rfl, hn.1, hn.2, ?_⟩
    cases r0 with
    | nil => exact .inr ⟨NoHead.nil _, h⟩
    | cons a r1 =>
      rcases bite_eq h with ⟨ha, h⟩ | ⟨ha, h⟩
      · cases r1 with
        | nil => cases h
        | cons v r2 =>
          obtain ⟨hv, h⟩ := ite_perr h
          simp only [Bool.and_eq_true, beq_iff_eq] at hv
          exact .inl ⟨a, v, r2, rfl, ha, hv.1, hv.2, h⟩
      · exact .inr ⟨NoHead.cons ha _, h⟩

theorem pEvent_alias {n a v : Tok} {r2 : List Tok} (hk : n.kind = .word) (hn : isChannelName n.text = true) (ha : isKw a "as" = true)
    (hvk : v.kind = .word) (hv : isCName v.text = true) : pEvent (n :: a :: v :: r2) = pEventBody n.text (some v.text) r2 := by
  have hw : ∀ {t : Tok} {b : Bool}, t.kind = .word → b = true → (t.kind == .word && b) = true := fun h1 h2 => by rw [h1, h2]; rfl
  exact (pEvent_eq _).trans ((if_pos (hw hk hn)).trans ((if_pos ha).trans (if_pos (hw hvk hv))))

theorem pEvent_plain {n : Tok} {r0 : List Tok} (hk : n.kind = .word) (hn : isChannelName n.text = true) (ha : NoHead (isKw · "as") r0) :
    pEvent (n :: r0) = pEventBody n.text none r0 := by
  have hw : (n.kind == .word && isChannelName n.text) = true := by rw [hk, hn]; rfl
  cases r0 with
  | nil => exact (pEvent_eq _).trans (if_pos hw)
  | cons a r1 => exact (pEvent_eq _).trans ((if_pos hw).trans (bite_neg (ha a r1 rfl) _ _))

theorem pDisjTail_ok {f : Nat} {acc : List RawSimple} {ts : List Tok} {r : RawEvent} {rest : List Tok}
    (h : pDisjTail f acc ts = .ok (r, rest)) :
    ∃ f' e t r1, f = f' + 1 ∧ pEvent ts = .ok (e, t :: r1) ∧
      ((isKw t "or" = true ∧ pDisjTail f' (e :: acc) r1 = .ok (r, rest)) ∨
       (isSym t ")" = true ∧ acc ≠ [] ∧ r = .disj (e :: acc).reverse ∧ rest = r1)) := by
  cases f with
  | zero => cases h
  | succ f' =>
    obtain ⟨e, ts1, h1, h2⟩ := bind_ok_pair h
    cases ts1 with
    | nil => cases h2
    | cons t r1 =>
      refine ⟨f', e, t, r1, rfl, h1, ?_⟩
      rcases bite_eq h2 with ⟨hor, h2⟩ | ⟨_, h2⟩
      · exact .inl ⟨hor, h2⟩
      · obtain ⟨hcl, h2⟩ := ite_perr h2
        rcases bite_eq h2 with ⟨_, h2⟩ | ⟨hemp, h2⟩
        · cases h2
        · obtain ⟨rfl, rfl⟩ := pure_pair_inj h2
          have hne : acc ≠ [] := by
            rintro rfl; cases hemp
          exact .inr ⟨hcl, hne, rfl, rfl⟩

theorem pDisjTail_or {f : Nat} {acc : List RawSimple} {ts r1 : List Tok} {e : RawSimple} {t : Tok}
    (he : pEvent ts = .ok (e, t :: r1)) (hor : isKw t "or" = true) : pDisjTail (f + 1) acc ts = pDisjTail f (e :: acc) r1 :=
  (bind_ok_eq he _).trans (if_pos hor)

theorem pDisjTail_close {f : Nat} {acc : List RawSimple} {ts r1 : List Tok} {e : RawSimple} {t : Tok}
    (he : pEvent ts = .ok (e, t :: r1)) (hcl : isSym t ")" = true) (hne : acc ≠ []) :
    pDisjTail (f + 1) acc ts = .ok (.disj (e :: acc).reverse, r1) := by
  have hemp : acc.isEmpty = false := by
    cases acc with
    | nil => exact absurd rfl hne
    | cons _ _ => rfl
  exact (bind_ok_eq he _).trans ((bite_neg (isKw_of_sym hcl) _ _).trans ((if_pos hcl).trans (bite_neg hemp _ _)))

theorem pAnyEvent_ok {ts : List Tok} {e : RawEvent} {rest : List Tok} (h : pAnyEvent ts = .ok (e, rest)) :
    ∃ t r0, ts = t :: r0 ∧
      ((isSym t "(" = true ∧ pDisjTail (ts.length + 1) [] r0 = .ok (e, rest)) ∨
       (isSym t "(" = false ∧ ∃ s, pEvent ts = .ok (s, rest) ∧ e = .simple s)) := by
  cases ts with
  | nil => cases h
  | cons t r0 =>
    refine ⟨t, r0, rfl, ?_⟩
    rcases bite_eq h with ⟨hp, h⟩ | ⟨hp, h⟩
    · exact .inl ⟨hp, h⟩
    · obtain ⟨s, r', h1, h2⟩ := bind_ok_pair h
      obtain ⟨rfl, rfl⟩ := pure_pair_inj h2
      exact .inr ⟨hp, s, h1, rfl⟩

theorem pAnyEvent_disj {t : Tok} (r0 : List Tok) (h : isSym t "(" = true) :
    pAnyEvent (t :: r0) = pDisjTail ((t :: r0).length + 1) [] r0 :=
  if_pos h

theorem pAnyEvent_simple {t : Tok} {r0 rest : List Tok} {s : RawSimple} (h : isSym t "(" = false) (he : pEvent (t :: r0) = .ok (s, rest)) :
    pAnyEvent (t :: r0) = .ok (.simple s, rest) :=
  (bite_neg h _ _).trans (bind_ok_eq he _)

theorem pTimeBound_ok {ts : List Tok} {tb : Option (Rat × TimeUnit)} {rest : List Tok} (h : pTimeBound ts = .ok (tb, rest)) :
    (NoHead (isKw · "within") ts ∧ tb = none ∧ rest = ts) ∨
    (∃ w n u v unit, ts = w :: n :: u :: rest ∧ isKw w "within" = true ∧ n.kind = .num ∧ decimalValue n.text = some v ∧
      ((isWordS u "ms" = true ∧ unit = .ms) ∨ (isWordS u "s" = true ∧ unit = .s)) ∧ tb = some (litRat v, unit)) := by
  cases ts with
  | nil =>
    obtain ⟨rfl, rfl⟩ := ok_pair_inj h
    exact .inl ⟨NoHead.nil _, rfl, rfl⟩
  | cons w r0 =>
    rcases bite_eq h with ⟨hw, h⟩ | ⟨hw, h⟩
    · obtain _ | ⟨n, _ | ⟨u, r2⟩⟩ := r0
      · cases h
      · cases h
      obtain ⟨hn, h⟩ := ite_perr h
      replace hn : n.kind = .num := by simpa using hn
      cases hd : decimalValue n.text with
      | none => rw [hd] at h; cases h
      | some v =>
        rw [hd] at h
        refine .inr ⟨w, n, u, v, ?_⟩
        rcases bite_eq h with ⟨hu, h⟩ | ⟨_, h⟩
        · obtain ⟨rfl, rfl⟩ := ok_pair_inj h
          exact ⟨.ms, rfl, hw, hn, hd, .inl ⟨hu, rfl⟩, rfl⟩
        · obtain ⟨hu, h⟩ := ite_perr h
          obtain ⟨rfl, rfl⟩ := ok_pair_inj h
          exact ⟨.s, rfl, hw, hn, hd, .inr ⟨hu, rfl⟩, rfl⟩
    · obtain ⟨rfl, rfl⟩ := ok_pair_inj h
      exact .inl ⟨NoHead.cons hw _, rfl, rfl⟩

theorem pTimeBound_none {ts : List Tok} (h : NoHead (isKw · "within") ts) : pTimeBound ts = .ok (none, ts) := by
  cases ts with
  | nil => rfl
  | cons w r0 => exact bite_neg (h w r0 rfl) _ _

theorem pTimeBound_within {w n u : Tok} {v : LitVal} {unit : TimeUnit} {rest : List Tok} (hw : isKw w "within" = true) (hn : n.kind = .num)
    (hd : decimalValue n.text = some v) (hu : (isWordS u "ms" = true ∧ unit = .ms) ∨ (isWordS u "s" = true ∧ unit = .s)) :
    pTimeBound (w :: n :: u :: rest) = .ok (some (litRat v, unit), rest) := by
  refine (if_pos hw).trans ((if_pos (by rw [hn]; rfl)).trans ?_)
  rw [hd]
  rcases hu with ⟨hu, rfl⟩ | ⟨hu, rfl⟩
  · exact if_pos hu
  · exact (bite_neg (isWordS_other hu (by decide)) _ _).trans (if_pos hu)

/-- key and value token of one annotation, as `RMeta.item` has them -/
abbrev MetaItem (k v : Tok) (key : String) : Prop :=
  (isWordS k "id" = true ∧ v.kind = .word ∧ isCName v.text = true ∧ key = "id") ∨
  (isWordS k "title" = true ∧ v.kind = .str ∧ key = "title") ∨
  (isWordS k "description" = true ∧ v.kind = .str ∧ key = "description")

theorem pMetadata_noHash (f : Nat) (acc : List (String × String)) {ts : List Tok} (h : NoHead (isSym · "#") ts) :
    pMetadata (f + 1) acc ts = .ok (acc, ts) := by
  obtain _ | ⟨t, _ | ⟨_, _ | ⟨_, _ | ⟨_, _⟩⟩⟩⟩ := ts
  · rfl
  all_goals exact bite_neg (h t _ rfl) _ _

theorem pMetadata_item (f : Nat) (acc : List (String × String)) {h k c v : Tok} {key : String} (r0 : List Tok)
    (hh : isSym h "#" = true) (hc : isSym c ":" = true) (hk : MetaItem k v key) :
    pMetadata (f + 1) acc (h :: k :: c :: v :: r0) = pMetadata f (acc ++ [(key, v.text)]) r0 := by
  refine (if_pos hh).trans ((if_pos hc).trans ?_)
  have no : ∀ {a b : String}, isWordS k a = true → a ≠ b → ∀ x, (isWordS k b && x) = false := fun h hab x => by
    rw [isWordS_other h hab, Bool.false_and]
  rcases hk with ⟨h1, h2, h3, rfl⟩ | ⟨h1, h2, rfl⟩ | ⟨h1, h2, rfl⟩
  · exact if_pos (by rw [h1, h2, h3]; rfl)
  · exact (bite_neg (by rw [Bool.and_assoc]; exact no h1 (by decide) _) _ _).trans (if_pos (by rw [h1, h2]; rfl))
  · exact (bite_neg (by rw [Bool.and_assoc]; exact no h1 (by decide) _) _ _).trans
      ((bite_neg (no h1 (by decide) _) _ _).trans (if_pos (by rw [h1, h2]; rfl)))

theorem pMetadata_ok {f : Nat} {acc : List (String × String)} {ts : List Tok} {md : List (String × String)} {rest : List Tok}
    (h : pMetadata f acc ts = .ok (md, rest)) :
    (NoHead (isSym · "#") ts ∧ md = acc ∧ rest = ts) ∨
    (∃ f' hd k c v r0 key, f = f' + 1 ∧ ts = hd :: k :: c :: v :: r0 ∧ isSym hd "#" = true ∧ isSym c ":" = true ∧ MetaItem k v key ∧
      pMetadata f' (acc ++ [(key, v.text)]) r0 = .ok (md, rest)) := by
  cases f with
  | zero => cases h
  | succ f' =>
    obtain _ | ⟨hd, tl⟩ := ts
    · obtain ⟨rfl, rfl⟩ := ok_pair_inj h
      exact .inl ⟨NoHead.nil _, rfl, rfl⟩
    cases hh : isSym hd "#" with
    | false =>
      rw [pMetadata_noHash _ _ (NoHead.cons hh _)] at h
      obtain ⟨rfl, rfl⟩ := ok_pair_inj h
      exact .inl ⟨NoHead.cons hh _, rfl, rfl⟩
    | true =>
      obtain _ | ⟨k, _ | ⟨c, _ | ⟨v, r0⟩⟩⟩ := tl
      · cases (if_pos hh).symm.trans h
      · cases (if_pos hh).symm.trans h
      · cases (if_pos hh).symm.trans h
      obtain ⟨hc, h⟩ := ite_perr ((if_pos hh).symm.trans h)
      refine .inr ⟨f', hd, k, c, v, r0, ?_⟩
      rcases bite_eq h with ⟨h1, h⟩ | ⟨_, h⟩
      · simp only [Bool.and_eq_true, beq_iff_eq] at h1
        exact ⟨"id", rfl, rfl, hh, hc, .inl ⟨h1.1.1, h1.1.2, h1.2, rfl⟩, h⟩
      · rcases bite_eq h with ⟨h2, h⟩ | ⟨_, h⟩
        · simp only [Bool.and_eq_true, beq_iff_eq] at h2
          exact ⟨"title", rfl, rfl, hh, hc, .inr (.inl ⟨h2.1, h2.2, rfl⟩), h⟩
        · obtain ⟨h3, h⟩ := ite_perr h
          simp only [Bool.and_eq_true, beq_iff_eq] at h3
          exact ⟨"description", rfl, rfl, hh, hc, .inr (.inr ⟨h3.1, h3.2, rfl⟩), h⟩

theorem pScope_ok {ts : List Tok} {sk : ScopeKind} {a q : Option RawEvent} {rest : List Tok} (h : pScope ts = .ok (sk, a, q, rest)) :
    ∃ t r0, ts = t :: r0 ∧
      ((isKw t "globally" = true ∧ sk = .global ∧ a = none ∧ q = none ∧ rest = r0) ∨
       (isKw t "after" = true ∧ ∃ e r1, pAnyEvent r0 = .ok (e, r1) ∧ a = some e ∧
          ((∃ u r2 e2, r1 = u :: r2 ∧ isKw u "until" = true ∧ pAnyEvent r2 = .ok (e2, rest) ∧ sk = .afterUntil ∧ q = some e2) ∨
           (NoHead (isKw · "until") r1 ∧ sk = .after ∧ q = none ∧ rest = r1))) ∨
       (isKw t "until" = true ∧ ∃ e, pAnyEvent r0 = .ok (e, rest) ∧ sk = .until_ ∧ a = none ∧ q = some e)) := by
  cases ts with
  | nil => cases h
  | cons t r0 =>
    refine ⟨t, r0, rfl, ?_⟩
    rcases bite_eq h with ⟨h1, h⟩ | ⟨_, h⟩
    · cases Except.ok.inj h
      exact .inl ⟨h1, rfl, rfl, rfl, rfl⟩
    · rcases bite_eq h with ⟨h2, h⟩ | ⟨_, h⟩
      · obtain ⟨e, r1, ha, hk⟩ := bind_ok_pair h
        refine .inr (.inl ⟨h2, e, r1, ha, ?_⟩)
        cases r1 with
        | nil =>
          cases Except.ok.inj hk
          exact ⟨rfl, .inr ⟨NoHead.nil _, rfl, rfl, rfl⟩⟩
        | cons u r2 =>
          rcases bite_eq hk with ⟨hu, hk⟩ | ⟨hu, hk⟩
          · obtain ⟨e2, r3, hb, hk2⟩ := bind_ok_pair hk
            cases Except.ok.inj hk2
            exact ⟨rfl, .inl ⟨u, r2, e2, rfl, hu, hb, rfl, rfl⟩⟩
          · cases Except.ok.inj hk
            exact ⟨rfl, .inr ⟨NoHead.cons hu _, rfl, rfl, rfl⟩⟩
      · obtain ⟨h3, h⟩ := ite_perr h
        obtain ⟨e, r1, ha, hk⟩ := bind_ok_pair h
        cases Except.ok.inj hk
        exact .inr (.inr ⟨h3, e, ha, rfl, rfl, rfl⟩)

theorem pScope_globally {t : Tok} (r0 : List Tok) (h : isKw t "globally" = true) : pScope (t :: r0) = .ok (.global, none, none, r0) :=
  if_pos h

theorem pScope_after {t : Tok} {r0 r1 : List Tok} {e : RawEvent} (h : isKw t "after" = true) (ha : pAnyEvent r0 = .ok (e, r1))
    (hu : NoHead (isKw · "until") r1) : pScope (t :: r0) = .ok (.after, some e, none, r1) := by
  refine (bite_neg (isKw_other h (by decide)) _ _).trans ((if_pos h).trans ((bind_ok_eq ha _).trans ?_))
  cases r1 with
  | nil => rfl
  | cons u r2 => exact bite_neg (hu u r2 rfl) _ _

theorem pScope_afterUntil {t u : Tok} {r0 r2 rest : List Tok} {e e2 : RawEvent} (h : isKw t "after" = true)
    (ha : pAnyEvent r0 = .ok (e, u :: r2)) (hu : isKw u "until" = true) (hb : pAnyEvent r2 = .ok (e2, rest)) :
    pScope (t :: r0) = .ok (.afterUntil, some e, some e2, rest) :=
  (bite_neg (isKw_other h (by decide)) _ _).trans ((if_pos h).trans ((bind_ok_eq ha _).trans ((if_pos hu).trans (bind_ok_eq hb _))))

theorem pScope_until {t : Tok} {r0 rest : List Tok} {e : RawEvent} (h : isKw t "until" = true) (ha : pAnyEvent r0 = .ok (e, rest)) :
    pScope (t :: r0) = .ok (.until_, none, some e, rest) :=
  (bite_neg (isKw_other h (by decide)) _ _).trans ((bite_neg (isKw_other h (by decide)) _ _).trans ((if_pos h).trans (bind_ok_eq ha _)))

/-- the common tail of every pattern: an event, then the optional time bound -/
def pEvTb (mk : RawEvent → Option (Rat × TimeUnit) → RawProperty) (ts : List Tok) : PR (RawProperty × List Tok) := do
  let (b, r) ← pAnyEvent ts
  let (tb, r) ← pTimeBound r
  pure (mk b tb, r)

theorem pEvTb_ok {mk : RawEvent → Option (Rat × TimeUnit) → RawProperty} {ts : List Tok} {p : RawProperty} {rest : List Tok}
    (h : pEvTb mk ts = .ok (p, rest)) : ∃ b r tb, pAnyEvent ts = .ok (b, r) ∧ pTimeBound r = .ok (tb, rest) ∧ p = mk b tb := by
  obtain ⟨b, r, h1, h2⟩ := bind_ok_pair h
  obtain ⟨tb, r', h3, h4⟩ := bind_ok_pair h2
  obtain ⟨rfl, rfl⟩ := pure_pair_inj h4
  exact ⟨b, r, tb, h1, h3, rfl⟩

theorem pEvTb_of {mk : RawEvent → Option (Rat × TimeUnit) → RawProperty} {ts r rest : List Tok} {b : RawEvent} {tb : Option (Rat × TimeUnit)}
    (h1 : pAnyEvent ts = .ok (b, r)) (h2 : pTimeBound r = .ok (tb, rest)) : pEvTb mk ts = .ok (mk b tb, rest) :=
  (bind_ok_eq h1 _).trans (bind_ok_eq h2 _)

/-- the pattern after a leading event `e1`: the keyword decides the kind and which event is the trigger -/
def binPattern (sk : ScopeKind) (act term : Option RawEvent) (md : List (String × String)) (e1 : RawEvent) :
    List (String × (RawEvent → Option (Rat × TimeUnit) → RawProperty)) :=
  [("causes", fun e2 tb => ⟨sk, act, term, .response, e2, some e1, tb, md⟩),
   ("forbids", fun e2 tb => ⟨sk, act, term, .prevention, e2, some e1, tb, md⟩),
   ("requires", fun e2 tb => ⟨sk, act, term, .requirement, e1, some e2, tb, md⟩)]

theorem pPattern_ok {sk : ScopeKind} {act term : Option RawEvent} {md : List (String × String)} {ts : List Tok} {p : RawProperty}
    {rest : List Tok} (h : pPattern sk act term md ts = .ok (p, rest)) :
    ∃ t r0, ts = t :: r0 ∧
      ((isKw t "some" = true ∧ pEvTb (fun b tb => ⟨sk, act, term, .existence, b, none, tb, md⟩) r0 = .ok (p, rest)) ∨
       (isKw t "no" = true ∧ pEvTb (fun b tb => ⟨sk, act, term, .absence, b, none, tb, md⟩) r0 = .ok (p, rest)) ∨
       (isKw t "some" = false ∧ isKw t "no" = false ∧ ∃ e1 k r2 w, w ∈ binPattern sk act term md e1 ∧
          pAnyEvent ts = .ok (e1, k :: r2) ∧ isKw k w.1 = true ∧ pEvTb w.2 r2 = .ok (p, rest))) := by
  cases ts with
  | nil => cases h
  | cons t r0 =>
    refine ⟨t, r0, rfl, ?_⟩
    rcases bite_eq h with ⟨h1, h⟩ | ⟨h1, h⟩
    · exact .inl ⟨h1, h⟩
    · rcases bite_eq h with ⟨h2, h⟩ | ⟨h2, h⟩
      · exact .inr (.inl ⟨h2, h⟩)
      · obtain ⟨e1, r, ha, hk⟩ := bind_ok_pair h
        cases r with
        | nil => cases hk
        | cons k r2 =>
          refine .inr (.inr ⟨h1, h2, e1, k, r2, ?_⟩)
          rcases bite_eq hk with ⟨hc, hk⟩ | ⟨_, hk⟩
          · exact ⟨_, List.mem_cons_self .., ha, hc, hk⟩
          · rcases bite_eq hk with ⟨hc, hk⟩ | ⟨_, hk⟩
            · exact ⟨_, List.mem_cons_of_mem _ (List.mem_cons_self ..), ha, hc, hk⟩
            · obtain ⟨hc, hk⟩ := ite_perr hk
              exact ⟨_, List.mem_cons_of_mem _ (List.mem_cons_of_mem _ (List.mem_cons_self ..)), ha, hc, hk⟩

theorem pPattern_some {sk : ScopeKind} {act term : Option RawEvent} {md : List (String × String)} {t : Tok} (r0 : List Tok)
    (h : isKw t "some" = true) : pPattern sk act term md (t :: r0) = pEvTb (fun b tb => ⟨sk, act, term, .existence, b, none, tb, md⟩) r0 :=
  if_pos h

theorem pPattern_no {sk : ScopeKind} {act term : Option RawEvent} {md : List (String × String)} {t : Tok} (r0 : List Tok)
    (h : isKw t "no" = true) : pPattern sk act term md (t :: r0) = pEvTb (fun b tb => ⟨sk, act, term, .absence, b, none, tb, md⟩) r0 :=
  (bite_neg (isKw_other h (by decide)) _ _).trans (if_pos h)

theorem pPattern_bin {sk : ScopeKind} {act term : Option RawEvent} {md : List (String × String)} {t k : Tok} {r0 r2 : List Tok}
    {e1 : RawEvent} {w : String × (RawEvent → Option (Rat × TimeUnit) → RawProperty)} (h1 : isKw t "some" = false) (h2 : isKw t "no" = false)
    (ha : pAnyEvent (t :: r0) = .ok (e1, k :: r2)) (hk : isKw k w.1 = true) (hw : w ∈ binPattern sk act term md e1) :
    pPattern sk act term md (t :: r0) = pEvTb w.2 r2 := by
  refine (bite_neg h1 _ _).trans ((bite_neg h2 _ _).trans ((bind_ok_eq ha _).trans ?_))
  simp only [binPattern, List.mem_cons, List.not_mem_nil, or_false] at hw
  rcases hw with rfl | rfl | rfl
  · exact if_pos hk
  · exact (bite_neg (isKw_other hk (by decide : "forbids" ≠ "causes")) _ _).trans (if_pos hk)
  · exact (bite_neg (isKw_other hk (by decide : "requires" ≠ "causes")) _ _).trans
      ((bite_neg (isKw_other hk (by decide : "requires" ≠ "forbids")) _ _).trans (if_pos hk))

theorem pProperty_ok {ts : List Tok} {p : RawProperty} {rest : List Tok} (h : pProperty ts = .ok (p, rest)) :
    ∃ md r1 sk act term c r3, pMetadata (ts.length + 1) [] ts = .ok (md, r1) ∧ pScope r1 = .ok (sk, act, term, c :: r3) ∧
      isSym c ":" = true ∧ pPattern sk act term md r3 = .ok (p, rest) := by
  obtain ⟨md, r1, h1, h2⟩ := bind_ok_pair h
  dsimp only at h2
  cases hsc : pScope r1 with
  | error e => rw [hsc] at h2; cases h2
  | ok v =>
    obtain ⟨sk, act, term, r2⟩ := v
    rw [hsc] at h2
    cases r2 with
    | nil => cases h2
    | cons c r3 =>
      rcases bite_eq h2 with ⟨_, h2⟩ | ⟨hc, h2⟩
      · cases h2
      · exact ⟨md, r1, sk, act, term, c, r3, h1, hsc, by simpa using hc, h2⟩

theorem pProperty_of {ts r1 r3 : List Tok} {md : List (String × String)} {sk : ScopeKind} {act term : Option RawEvent} {c : Tok}
    (h1 : pMetadata (ts.length + 1) [] ts = .ok (md, r1)) (h2 : pScope r1 = .ok (sk, act, term, c :: r3)) (hc : isSym c ":" = true) :
    pProperty ts = pPattern sk act term md r3 :=
  (bind_ok_eq h1 _).trans ((bind_ok_eq h2 _).trans (bite_neg (by rw [hc]; rfl) _ _))

/-- On input that agrees with `ts'` on the keys, `p` succeeds where it succeeds on `ts'`, with the same tree and key-equal remaining
    input.  Agreement on keys is symmetric, so this gives equal results at the entry points, where the only failure is the syntax error. -/
def Sim {α : Type} (p : List Tok → PR (α × List Tok)) : Prop :=
  ∀ {ts' ts : List Tok} {r : α} {rs : List Tok}, KEq ts' ts → p ts' = .ok (r, rs) → ∃ rs', p ts = .ok (r, rs') ∧ KEq rs rs'

theorem KEq.symm {ts' ts : List Tok} (h : KEq ts' ts) : KEq ts ts' := Eq.symm h

theorem NoHead.keq {p : Tok → Bool} (hp : ∀ {t' t : Tok}, tokKey t' = tokKey t → p t' = p t) {ts' ts : List Tok} (hk : KEq ts' ts)
    (h : NoHead p ts') : NoHead p ts := by
  cases ts' with
  | nil => rw [hk.nil_left]; exact NoHead.nil _
  | cons t' r' =>
    obtain ⟨t, r, rfl, hkt, _⟩ := hk.cons_inv
    exact NoHead.cons ((hp hkt).symm.trans (h t' r' rfl)) _

theorem RRel.sim {α : Type} {x y : PR (α × List Tok)} (h : RRel x y) {r : α} {rs : List Tok} (hx : x = .ok (r, rs)) :
    ∃ rs', y = .ok (r, rs') ∧ KEq rs rs' := by
  subst hx
  cases y with
  | error e => exact h.elim
  | ok v => exact ⟨v.2, by rw [h.1], h.2⟩

theorem unit_ext {α : Type} {x y : Except Unit α} (h1 : ∀ a, x = .ok a → y = .ok a) (h2 : ∀ a, y = .ok a → x = .ok a) : x = y := by
  cases x with
  | ok a => exact (h1 a rfl).symm
  | error e =>
    cases y with
    | ok b => exact h2 b rfl
    | error e' => rfl

theorem sim_eq {α : Type} {x y : PR (α × List Tok)} {r : α} {rs : List Tok} (e : x = y)
    (h : ∃ rs', y = .ok (r, rs') ∧ KEq rs rs') : ∃ rs', x = .ok (r, rs') ∧ KEq rs rs' :=
  e ▸ h

theorem pEventBody_sim (name : String) (al : Option String) : Sim (pEventBody name al) := by
  intro ts' ts r rs h hp
  rcases pEventBody_ok hp with ⟨p, h1, rfl⟩ | ⟨hb, rfl, rfl⟩
  · obtain ⟨rs', h2, hk⟩ := (pPredicate_sim h).sim h1
    exact ⟨rs', pEventBody_some h2, hk⟩
  · exact ⟨ts, pEventBody_none (hb.keq (fun hk => key_isSym hk _) h), h⟩

theorem pEvent_sim : Sim pEvent := by
  intro ts' ts r rs h hp
  obtain ⟨n', r0', rfl, hk', hn', hc⟩ := pEvent_ok hp
  obtain ⟨n, r0, rfl, hkn, hr⟩ := h.cons_inv
  rw [key_kind hkn] at hk'
  rw [key_text hkn] at hn' hc
  rcases hc with ⟨a', v', r2', rfl, ha, hvk, hv, hb⟩ | ⟨hna, hb⟩
  · obtain ⟨a, r1, rfl, hka, hr1⟩ := hr.cons_inv
    obtain ⟨v, r2, rfl, hkv, hr2⟩ := hr1.cons_inv
    rw [key_isKw hka] at ha
    rw [key_kind hkv] at hvk
    rw [key_text hkv] at hv hb
    exact sim_eq (pEvent_alias hk' hn' ha hvk hv) (pEventBody_sim _ _ hr2 hb)
  · exact sim_eq (pEvent_plain hk' hn' (hna.keq (fun hk => key_isKw hk _) hr)) (pEventBody_sim _ _ hr hb)

theorem pDisjTail_sim (f : Nat) (acc : List RawSimple) : Sim (pDisjTail f acc) := by
  intro ts' ts r rs h hp
  induction f generalizing acc ts' ts with
  | zero => cases hp
  | succ n ih =>
    obtain ⟨f0, e, t', r1', hf0, he, hc⟩ := pDisjTail_ok hp
    cases hf0
    obtain ⟨rs1, he2, hk1⟩ := pEvent_sim h he
    obtain ⟨t, r1, rfl, hkt, hr1⟩ := hk1.cons_inv
    rcases hc with ⟨hor, hd⟩ | ⟨hcl, hne, rfl, rfl⟩
    · rw [key_isKw hkt] at hor
      exact sim_eq (pDisjTail_or he2 hor) (ih _ hr1 hd)
    · rw [key_isSym hkt] at hcl
      exact ⟨r1, pDisjTail_close he2 hcl hne, hr1⟩

theorem pAnyEvent_sim : Sim pAnyEvent := by
  intro ts' ts r rs h hp
  obtain ⟨t', r0', rfl, hc⟩ := pAnyEvent_ok hp
  obtain ⟨t, r0, rfl, hkt, hr⟩ := h.cons_inv
  rw [key_isSym hkt] at hc
  rcases hc with ⟨hpar, hd⟩ | ⟨hpar, s, he, rfl⟩
  · obtain ⟨rs', h2, hk2⟩ := pDisjTail_sim _ _ hr hd
    refine ⟨rs', (pAnyEvent_disj _ hpar).trans ?_, hk2⟩
    rw [List.length_cons, ← hr.length]
    exact h2
  · obtain ⟨rs', h2, hk2⟩ := pEvent_sim h he
    exact ⟨rs', pAnyEvent_simple hpar h2, hk2⟩

theorem pTimeBound_sim : Sim pTimeBound := by
  intro ts' ts r rs h hp
  rcases pTimeBound_ok hp with ⟨hw, rfl, rfl⟩ | ⟨w', n', u', v, unit, rfl, hw, hn, hd, hu, rfl⟩
  · exact ⟨ts, pTimeBound_none (hw.keq (fun hk => key_isKw hk _) h), h⟩
  · obtain ⟨w, r1, rfl, hkw, hr1⟩ := h.cons_inv
    obtain ⟨n, r2, rfl, hkn, hr2⟩ := hr1.cons_inv
    obtain ⟨u, r3, rfl, hku, hr3⟩ := hr2.cons_inv
    rw [key_isKw hkw] at hw
    rw [key_kind hkn] at hn
    rw [key_text hkn] at hd
    rw [key_isWordS hku, key_isWordS hku] at hu
    exact ⟨r3, pTimeBound_within hw hn hd hu, hr3⟩

theorem pMetadata_sim (f : Nat) (acc : List (String × String)) : Sim (pMetadata f acc) := by
  intro ts' ts r rs h hp
  induction f generalizing acc ts' ts with
  | zero => cases hp
  | succ n ih =>
    rcases pMetadata_ok hp with ⟨hh, rfl, rfl⟩ | ⟨f0, hd', k', c', v', r0', key, hf0, rfl, hh, hc, hk, hm⟩
    · exact ⟨ts, pMetadata_noHash _ _ (hh.keq (fun hk => key_isSym hk _) h), h⟩
    · cases hf0
      obtain ⟨hd, r1, rfl, hkh, hr1⟩ := h.cons_inv
      obtain ⟨k, r2, rfl, hkk, hr2⟩ := hr1.cons_inv
      obtain ⟨c, r3, rfl, hkc, hr3⟩ := hr2.cons_inv
      obtain ⟨v, r0, rfl, hkv, hr0⟩ := hr3.cons_inv
      rw [key_isSym hkh] at hh
      rw [key_isSym hkc] at hc
      rw [key_text hkv] at hm
      have hk2 : MetaItem k v key := by
        unfold MetaItem at hk ⊢
        rw [key_isWordS hkk, key_isWordS hkk, key_isWordS hkk, key_kind hkv, key_text hkv] at hk
        exact hk
      exact sim_eq (pMetadata_item _ _ _ hh hc hk2) (ih _ hr0 hm)

theorem pEvTb_sim (mk : RawEvent → Option (Rat × TimeUnit) → RawProperty) : Sim (pEvTb mk) := by
  intro ts' ts p rs h hp
  obtain ⟨b, r, tb, h1, h3, rfl⟩ := pEvTb_ok hp
  obtain ⟨r', h1', hk1⟩ := pAnyEvent_sim h h1
  obtain ⟨rs', h3', hk3⟩ := pTimeBound_sim hk1 h3
  exact ⟨rs', pEvTb_of h1' h3', hk3⟩

theorem pPattern_sim (sk : ScopeKind) (act term : Option RawEvent) (md : List (String × String)) : Sim (pPattern sk act term md) := by
  intro ts' ts p rs h hp
  obtain ⟨t', r0', rfl, hc⟩ := pPattern_ok hp
  obtain ⟨t, r0, rfl, hkt, hr⟩ := h.cons_inv
  rw [key_isKw hkt, key_isKw hkt] at hc
  rcases hc with ⟨h1, he⟩ | ⟨h2, he⟩ | ⟨h1, h2, e1, k', r2', w, hw, ha, hk, he⟩
  · exact sim_eq (pPattern_some _ h1) (pEvTb_sim _ hr he)
  · exact sim_eq (pPattern_no _ h2) (pEvTb_sim _ hr he)
  · obtain ⟨r1, ha', hk1⟩ := pAnyEvent_sim h ha
    obtain ⟨k, r2, rfl, hkk, hr2⟩ := hk1.cons_inv
    rw [key_isKw hkk] at hk
    exact sim_eq (pPattern_bin h1 h2 ha' hk hw) (pEvTb_sim _ hr2 he)

theorem pScope_sim {ts' ts : List Tok} {sk : ScopeKind} {a q : Option RawEvent} {rs : List Tok} (h : KEq ts' ts)
    (hp : pScope ts' = .ok (sk, a, q, rs)) : ∃ rs', pScope ts = .ok (sk, a, q, rs') ∧ KEq rs rs' := by
  obtain ⟨t', r0', rfl, hc⟩ := pScope_ok hp
  obtain ⟨t, r0, rfl, hkt, hr⟩ := h.cons_inv
  rw [key_isKw hkt, key_isKw hkt, key_isKw hkt] at hc
  rcases hc with ⟨h1, rfl, rfl, rfl, rfl⟩ | ⟨h2, e, r1', ha, rfl, hc⟩ | ⟨h3, e, ha, rfl, rfl, rfl⟩
  · exact ⟨r0, pScope_globally _ h1, hr⟩
  · obtain ⟨r1, ha', hk1⟩ := pAnyEvent_sim hr ha
    rcases hc with ⟨u', r2', e2, rfl, hu, hb, rfl, rfl⟩ | ⟨hu, rfl, rfl, rfl⟩
    · obtain ⟨u, r2, rfl, hku, hr2⟩ := hk1.cons_inv
      rw [key_isKw hku] at hu
      obtain ⟨rs', hb', hk2⟩ := pAnyEvent_sim hr2 hb
      exact ⟨rs', pScope_afterUntil h2 ha' hu hb', hk2⟩
    · exact ⟨r1, pScope_after h2 ha' (hu.keq (fun hk => key_isKw hk _) hk1), hk1⟩
  · obtain ⟨rs', ha', hk1⟩ := pAnyEvent_sim hr ha
    exact ⟨rs', pScope_until h3 ha', hk1⟩

theorem pProperty_sim : Sim pProperty := by
  intro ts' ts p rs h hp
  obtain ⟨md, r1', sk, act, term, c', r3', h1, h2, hc, h3⟩ := pProperty_ok hp
  rw [h.length] at h1
  obtain ⟨r1, h1', hk1⟩ := pMetadata_sim _ _ h h1
  obtain ⟨r2, h2', hk2⟩ := pScope_sim hk1 h2
  obtain ⟨c, r3, rfl, hkc, hr3⟩ := hk2.cons_inv
  rw [key_isSym hkc] at hc
  exact sim_eq (pProperty_of h1' h2' hc) (pPattern_sim _ _ _ _ hr3 h3)

theorem parsePropertyToks_ok {ts : List Tok} {p : RawProperty} (h : parsePropertyToks ts = .ok p) : pProperty ts = .ok (p, []) := by
  obtain ⟨q, rest, hp, h2⟩ := bind_ok_pair h
  cases rest with
  | nil => cases Except.ok.inj h2; exact hp
  | cons _ _ => cases h2

theorem parsePropertyToks_of {ts : List Tok} {p : RawProperty} (h : pProperty ts = .ok (p, [])) : parsePropertyToks ts = .ok p :=
  (bind_ok_eq h _).trans rfl

/-- **C01 / C18 (layout independence, property level)** -/
theorem parsePropertyToks_sim {ts' ts : List Tok} (h : KEq ts' ts) : parsePropertyToks ts' = parsePropertyToks ts := by
  have one : ∀ {ts' ts : List Tok}, KEq ts' ts → ∀ p, parsePropertyToks ts' = .ok p → parsePropertyToks ts = .ok p := by
    intro ts' ts h p hp
    obtain ⟨rs', h2, hk⟩ := pProperty_sim h (parsePropertyToks_ok hp)
    cases hk.nil_left
    exact parsePropertyToks_of h2
  exact unit_ext (one h) (one h.symm)

theorem pFile_ok {f : Nat} {acc : List RawProperty} {ts : List Tok} {rs : List RawProperty} (h : pFile f acc ts = .ok rs) :
    ∃ f' p rest, f = f' + 1 ∧ pProperty ts = .ok (p, rest) ∧
      ((rest = [] ∧ rs = acc ++ [p]) ∨ (rest ≠ [] ∧ pFile f' (acc ++ [p]) rest = .ok rs)) := by
  cases f with
  | zero => cases h
  | succ f' =>
    obtain ⟨p, rest, hp, h2⟩ := bind_ok_pair h
    refine ⟨f', p, rest, rfl, hp, ?_⟩
    cases rest with
    | nil => exact .inl ⟨rfl, (Except.ok.inj h2).symm⟩
    | cons t tl => exact .inr ⟨List.cons_ne_nil _ _, h2⟩

theorem pFile_last {f : Nat} {acc : List RawProperty} {ts : List Tok} {p : RawProperty} (hp : pProperty ts = .ok (p, [])) :
    pFile (f + 1) acc ts = .ok (acc ++ [p]) :=
  bind_ok_eq hp _

theorem pFile_next {f : Nat} {acc : List RawProperty} {ts rest : List Tok} {p : RawProperty} (hp : pProperty ts = .ok (p, rest))
    (hne : rest ≠ []) : pFile (f + 1) acc ts = pFile f (acc ++ [p]) rest := by
  cases rest with
  | nil => exact absurd rfl hne
  | cons t tl => exact bind_ok_eq hp _

theorem pFile_sim (f : Nat) (acc : List RawProperty) {ts' ts : List Tok} (h : KEq ts' ts) (rs : List RawProperty)
    (hp : pFile f acc ts' = .ok rs) : pFile f acc ts = .ok rs := by
  induction f generalizing acc ts' ts with
  | zero => cases hp
  | succ n ih =>
    obtain ⟨f0, p, rest', hf0, h1, hc⟩ := pFile_ok hp
    cases hf0
    obtain ⟨rest, h1', hk⟩ := pProperty_sim h h1
    rcases hc with ⟨rfl, rfl⟩ | ⟨hne, h2⟩
    · cases hk.nil_left
      exact pFile_last h1'
    · exact (pFile_next h1' (by rintro rfl; exact hne hk.symm.nil_left)).trans (ih _ hk h2)

/-- **C18 (layout independence, file level)** -/
theorem parseFileToks_sim {ts' ts : List Tok} (h : KEq ts' ts) : parseFileToks ts' = parseFileToks ts := by
  unfold parseFileToks
  rw [h.length]
  exact unit_ext (pFile_sim _ [] h) (pFile_sim _ [] h.symm)

theorem parsePredicateToks_sim {ts' ts : List Tok} (h : KEq ts' ts) : parsePredicateToks ts' = parsePredicateToks ts := by
  have one : ∀ {ts' ts : List Tok}, KEq ts' ts → ∀ r, parsePredicateToks ts' = .ok r → parsePredicateToks ts = .ok r := by
    intro ts' ts h r hp
    obtain ⟨q, rest, h1, h2⟩ := bind_ok_pair hp
    obtain ⟨rs', h1', hk⟩ := (pPredicate_sim h).sim h1
    cases rest with
    | cons _ _ => cases h2
    | nil =>
      cases Except.ok.inj h2
      cases hk.nil_left
      exact (bind_ok_eq h1' _).trans rfl
  exact unit_ext (one h) (one h.symm)

end Hpl
