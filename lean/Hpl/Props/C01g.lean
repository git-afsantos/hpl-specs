import Hpl.Spec.GrammarProp
import Hpl.Props.C18f
/-!
# C01 — the property parser accepts exactly what the property grammar derives

Whatever `parsePropertyToks` returns, the declarative grammar of `Spec/GrammarProp.lean` assigns to the whole token sequence:
annotations in source order, the scope kind with its activator / terminator, the pattern kind with behaviour and trigger in
their places (`requires` swaps them), alternatives of a disjunction in source order, aliases, predicates (by `parse_sound`),
and the time amount with its unit; and whatever the grammar derives is parsed to exactly that tree.  The two halves, function by
function, are in `Props/C18d` (`pProperty_snd`: what the parser consumed is a phrase of the grammar; `rproperty_whole`: a phrase
of the grammar is read back), where truncation rests on them.
-/
namespace Hpl

/-- **C01, property level, soundness**: whatever the property parser returns, the property grammar assigns to the whole text -/
theorem parseProperty_sound {ts : List Tok} {p : RawProperty} (h : parsePropertyToks ts = .ok p) : RProperty p ts := by
  obtain ⟨pre, hpre, hr⟩ := pProperty_snd (parsePropertyToks_ok h)
  rw [List.append_nil] at hpre
  exact hpre ▸ hr

/-- **C01, property level, completeness**: every token sequence the property grammar reads as a property with tree `p` is parsed to
    exactly `p`, all tokens consumed -/
theorem parseProperty_complete {p : RawProperty} {ts : List Tok} (h : RProperty p ts) : parsePropertyToks ts = .ok p :=
  parsePropertyToks_of (rproperty_whole h)

/-- **C01, property level: the parser accepts exactly what the property grammar derives, with exactly the tree it assigns** -/
theorem parseProperty_iff (ts : List Tok) (p : RawProperty) : parsePropertyToks ts = .ok p ↔ RProperty p ts :=
  ⟨parseProperty_sound, parseProperty_complete⟩

/-- the property grammar is unambiguous -/
theorem rproperty_functional {p p' : RawProperty} {ts : List Tok} (h : RProperty p ts) (h' : RProperty p' ts) : p = p' :=
  Except.ok.inj ((parseProperty_complete h).symm.trans (parseProperty_complete h'))

/-- **file level**: `hpl_file: hpl_property+` - a token text parses as a file to `rs` iff it is a concatenation of k ≥ 1 texts that the
    property grammar reads as the members of `rs`, in order -/
theorem parseFile_iff_grammar (ts : List Tok) (rs : List RawProperty) :
    parseFileToks ts = .ok rs ↔
    ∃ chunks : List (List Tok × RawProperty), chunks ≠ [] ∧ ts = fileToks chunks ∧ rs = chunks.map (·.2) ∧ ∀ c ∈ chunks, RProperty c.2 c.1 := by
  simp only [parseFileToks_iff, parseProperty_iff]

end Hpl
