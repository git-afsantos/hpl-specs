import Hpl.Props.C06h
import Hpl.Props.C18b
import Hpl.Props.C06c
import Hpl.Spec.PrintCharsProp
/-!
# C06 / C18 — the scanner at property level (brace depth 0): keywords, channel names, punctuation, time bounds
-/
namespace Hpl

theorem takeWhileC_split (p : Char → Bool) : ∀ (cs a b : List Char), takeWhileC p cs = (a, b) → cs = a ++ b :=
  fun cs a b h => (takeWhileC_spec p cs a b h).1

/-- what may follow a name at property level: not a name character and not `/` -/
def NameEnd (rest : List Char) : Prop := ∀ x, rest.head? = some x → isIdChar x = false ∧ x ≠ '/'

theorem NameEnd.notId {rest : List Char} (h : NameEnd rest) : ∀ x, rest.head? = some x → isIdChar x = false := fun x hx => (h x hx).1
theorem NameEnd.notSlash {rest : List Char} (h : NameEnd rest) : rest.head? ≠ some '/' := fun hh => (h '/' hh).2 rfl

theorem chanSegments_succ_slash (f : Nat) (c : Char) (cs : List Char) (hc : isAlphaA c = true) :
    chanSegments (f + 1) ('/' :: c :: cs) =
      ('/' :: c :: (takeWhileC isIdChar cs).1 ++ (chanSegments f (takeWhileC isIdChar cs).2).1, (chanSegments f (takeWhileC isIdChar cs).2).2) := by
  simp [chanSegments, hc]

theorem chanSegments_noseg (f : Nat) (w : List Char) (h : ∀ c cs, w = '/' :: c :: cs → isAlphaA c = false) : chanSegments f w = ([], w) := by
  cases f with
  | zero => rfl
  | succ f =>
    unfold chanSegments
    split
    · rfl
    · rename_i c cs _
      have := h c cs rfl
      simp [this]
    · rfl

/-- a text that starts no further segment still starts none when the end of a name follows -/
theorem noseg_append {cs rest : List Char} (hno : ∀ c tl, cs = '/' :: c :: tl → isAlphaA c = false) (hr : NameEnd rest) :
    ∀ c tl, cs ++ rest = '/' :: c :: tl → isAlphaA c = false := by
  intro c tl he
  match cs, he, hno with
  | [], he, _ => exact absurd rfl (hr '/' (by rw [List.nil_append] at he; rw [he]; rfl)).2
  | [x], he, _ =>
    cases rest with
    | nil => cases he
    | cons w r2 =>
      cases he
      have := hr.notId c rfl
      simp only [isIdChar, Bool.or_eq_false_iff] at this
      exact this.1.1
  | x :: y :: tl', he, hno =>
    cases he
    exact hno c tl' rfl

/-- channel-name continuation is local: if what it leaves starts no further segment (it did not stop for lack of fuel), it reads the
    same segments with more fuel and the end of a name appended -/
theorem chanSegments_gen : ∀ (f : Nat) (cs a b : List Char), chanSegments f cs = (a, b) →
    (∀ c tl, b = '/' :: c :: tl → isAlphaA c = false) →
    ∀ (rest : List Char), NameEnd rest → ∀ f', f ≤ f' → chanSegments f' (cs ++ rest) = (a, b ++ rest)
  | 0, cs, a, b, h, hb, rest, hr, f', _ => by
      cases h
      exact chanSegments_noseg _ _ (noseg_append hb hr)
  | f + 1, cs, a, b, h, hb, rest, hr, f', hf => by
      obtain ⟨f'', rfl⟩ : ∃ n, f' = n + 1 := ⟨f' - 1, by omega⟩
      by_cases hseg : ∃ c cs', cs = '/' :: c :: cs' ∧ isAlphaA c = true
      · -- one more segment: `/`, a letter, identifier characters; then the rest of the name
        obtain ⟨c, cs', rfl, hc⟩ := hseg
        rw [chanSegments_succ_slash _ _ _ hc] at h
        cases h
        rw [List.cons_append, List.cons_append, chanSegments_succ_slash _ _ _ hc, takeWhileC_local isIdChar cs' rest hr.notId,
          chanSegments_gen f _ _ _ rfl hb rest hr f'' (by omega)]
      · have hno : ∀ c cs', cs = '/' :: c :: cs' → isAlphaA c = false := fun c cs' he =>
          Bool.eq_false_iff.mpr fun hc => hseg ⟨c, cs', he, hc⟩
        rw [chanSegments_noseg _ _ hno] at h
        cases h
        exact chanSegments_noseg _ _ (noseg_append hno hr)

theorem chanSegments_local : ∀ (f : Nat) (w : List Char), chanSegments f w = (w, []) → ∀ (f' : Nat) (rest : List Char), f ≤ f' → NameEnd rest →
    chanSegments f' (w ++ rest) = (w, rest) :=
  fun f w h f' rest hf hr => chanSegments_gen f w w [] h (fun _ _ he => by cases he) rest hr f' hf
/-- an identifier at property level (keyword, alias), followed by something that continues neither a name nor a channel -/
theorem lx_word0 (c : Char) (w : List Char) (hc : isIdStart c = true) (hw : w.all isIdChar = true) :
    Lx (c :: w) 0 true [wordKey (c :: w)] 0 false NameEnd :=
  Lx.tok (idStart_not_ws c hc) (fun _ hP => scanTok_word hc hw hP.notId (fun _ => hP.notSlash)) (fun _ => rfl) (fun h => by cases h)

/-- a word given as a string, at property level -/
theorem lx_word0S (s : String) (hs : isCName s = true) : Lx s.toList 0 true [(.word, s, false)] 0 false NameEnd :=
  (lx_ident s 0 hs).weakenP (fun _ h => ⟨h.notId, fun _ => h.notSlash⟩)

theorem nameEnd_cons {x : Char} {xs : List Char} (h1 : isIdChar x = false) (h2 : x ≠ '/') : NameEnd (x :: xs) := by
  intro y hy; simp only [List.head?_cons, Option.some.injEq] at hy; subst hy; exact ⟨h1, h2⟩
theorem nameEnd_nil : NameEnd [] := by intro y hy; cases hy

/-- `(`, `)`, `:` at property level -/
theorem lx_c0 (c : Char) (hc : c ∈ ['(', ')', ':']) : Lx [c] 0 false [(.sym, String.ofList [c], false)] 0 true (fun _ => True) := by
  have all : ∀ x ∈ ['(', ')', ':'], "()[],:.#=!<>+-*/".toList.contains x = true ∧ (x == '.') = false ∧ x ≠ '!' ∧
      (x == '/') = false ∧ pairOf x = none := by decide
  obtain ⟨hp, hdot, hb, hsl, hpair⟩ := all c hc
  exact (lx_punct hp hdot hb (by rw [hsl]; rfl)).weakenP (fun _ _ p h => by rw [hpair] at h; cases h)

theorem chan_tail {cs : List Char}
    (h1 : (takeWhileC isIdChar cs).1 ++ (chanSegments ((takeWhileC isIdChar cs).2.length + 1) (takeWhileC isIdChar cs).2).1 = cs)
    (h2 : (chanSegments ((takeWhileC isIdChar cs).2.length + 1) (takeWhileC isIdChar cs).2).2 = [])
    (rest : List Char) (hr : NameEnd rest) :
    chanSegments (((takeWhileC isIdChar cs).2 ++ rest).length + 1) ((takeWhileC isIdChar cs).2 ++ rest) = ((takeWhileC isIdChar cs).2, rest) ∧
    (takeWhileC isIdChar cs).1 ++ (takeWhileC isIdChar cs).2 = cs := by
  have hsplit := takeWhileC_split isIdChar cs _ _ rfl
  exact ⟨chanSegments_local _ _ (Prod.ext (List.append_cancel_left (h1.trans hsplit)) h2) _ rest
    (by simp only [List.length_append]; omega) hr, hsplit.symm⟩

/-- a complete channel name is scanned as one word at property level -/
theorem lx_chan (name : List Char) (hok : chanTokOk name = true) :
    Lx name 0 true [(.word, String.ofList name, false)] 0 false NameEnd := by
  unfold chanTokOk at hok
  cases name with
  | nil => cases hok
  | cons c cs =>
    simp only at hok
    by_cases hc : (isIdStart c && isAlphaA c) = true
    · rw [if_pos hc] at hok
      simp only [Bool.and_eq_true, beq_iff_eq, List.isEmpty_iff] at hok hc
      refine Lx.tok (aw' := true) (idStart_not_ws c hc.1) (fun rest hP => ?_) (fun _ => rfl) (fun h => by cases h)
      have t1 := takeWhileC_local isIdChar (c :: cs) rest hP.notId
      obtain ⟨t2, t3⟩ := chan_tail hok.1 hok.2 rest hP
      simp only [List.cons_append] at t1 t2
      simp only [scanTok, class_ne hc.1 (x := '@') (by decide), class_ne hc.1 (x := '"') (by decide),
        numGuard_false (idStart_not_digit c hc.1) (class_ne hc.1 (x := '.') (by decide)), hc.1, hc.2, t1, t2, t3, beq_self_eq_true,
        Bool.and_self, Bool.false_eq_true, if_false, if_true]
    · rw [if_neg hc] at hok
      by_cases hl : (c == '/' || c == '~') = true
      · rw [if_pos hl] at hok
        cases cs with
        | nil => cases hok
        | cons x xs =>
          simp only [Bool.and_eq_true, beq_iff_eq, List.isEmpty_iff] at hok
          obtain ⟨⟨hx, hk1⟩, hk2⟩ := hok
          have hcl : isWs c = false ∧ (c == '@') = false ∧ (c == '"') = false ∧ isDigitA c = false ∧ (c == '.') = false ∧
              isIdStart c = false := by
            simp only [Bool.or_eq_true, beq_iff_eq] at hl
            rcases hl with rfl | rfl <;> decide
          refine Lx.tok (aw' := true) hcl.1 (fun rest hP => ?_) (fun _ => rfl) (fun h => by cases h)
          simp only [List.cons_append, List.cons.injEq, true_and] at hk1
          have t1 := takeWhileC_local isIdChar (x :: xs) rest hP.notId
          obtain ⟨t2, t3⟩ := chan_tail hk1 hk2 rest hP
          simp only [List.cons_append] at t1 t2
          simp only [scanTok, hcl.2.1, hcl.2.2.1, numGuard_false hcl.2.2.2.1 hcl.2.2.2.2.1, hcl.2.2.2.2.2, hl, List.head?_cons, Option.any_some, hx, List.cons_append,
            t1, t2, t3, beq_self_eq_true, Bool.and_self, Bool.false_eq_true, if_false, if_true]
      · rw [if_neg hl] at hok
        cases hok

/-- a time amount as printed: the number directly followed by its unit -/
theorem lx_time (w : List Char) (u : String) (hu : u = "ms" ∨ u = "s") (hw : numTokOk w = true) (hlast : w.getLast? ≠ some '.') :
    Lx (w ++ u.toList) 0 false [(.num, String.ofList w, false), (.word, u, true)] 0 false NameEnd := by
  obtain ⟨c, v, hul, hc, hv, hstop⟩ : ∃ c v, u.toList = c :: v ∧ isIdStart c = true ∧ v.all isIdChar = true ∧ ∀ rest, NumStop (c :: rest) := by
    rcases hu with rfl | rfl
    · exact ⟨'m', ['s'], by decide, by decide, by decide, fun _ x hx => by cases hx; decide⟩
    · exact ⟨'s', [], by decide, by decide, by decide, fun _ x hx => by cases hx; decide⟩
  cases w with
  | nil => cases hw
  | cons d w' =>
    have hg : numGuard d w' = true := by
      simp only [numTokOk, Bool.and_eq_true] at hw
      exact hw.2
    intro rest hP g aw acc _
    refine ⟨2, [⟨.num, String.ofList (d :: w'), g, aw⟩, ⟨.word, u, true, true⟩], true, true, ?_, (fun h => by cases h), by simp [tokKey],
      fun f => ?_⟩
    · rw [hul]
      simp only [List.length_append, List.length_cons]
      omega
    · rw [hul, List.append_assoc, List.cons_append, List.cons_append, scan_tok (numGuard_class hg).1 (scanTok_num 0 hw (hstop _)),
        scan_tok (idStart_not_ws c hc) (scanTok_word hc hv hP.notId (fun _ => hP.notSlash)), ← hul, String.ofList_toList]
      have hl : ((d :: w').getLast? != some '.') = true := by simpa using hlast
      rw [hl]
      rfl

end Hpl
