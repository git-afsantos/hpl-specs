import Hpl.Model.Parser
import Hpl.Lemmas.Except
import Hpl.Props.C03
/-!
# C07 — parsing never fails in undocumented ways (validator layer)

The `assert`s and unchecked lookups of `hpl.ast` are `Err.internal` / `Err.key` outcomes of the model. The theorems show
that construction from any untyped tree only ever fails with a documented class. Lark's own engine, recursion limits and
hidden state of a parser object are outside the model and carried by the correspondence / history stream.
-/
namespace Hpl

/-- documented failure classes of the parser entry points -/
def Err.documented : Err → Prop
  | .syntax | .sanity | .type | .value => True
  | _ => False

theorem quantBodyCheck_err (x : String) (t : DataType) : ∀ (l : List Expr) (used : Nat) (e : Err),
    quantBodyCheck x t l used = .error e → e = .type ∨ e = .sanity := by
  intro l
  induction l with
  | nil => intro used e h; simp [quantBodyCheck] at h
  | cons n rest ih =>
    intro used e h
    cases n with
    | quant _ _ y _ _ =>
      simp only [quantBodyCheck] at h
      split at h
      · cases h; right; rfl
      · exact ih _ _ h
    | var ty y =>
      simp only [quantBodyCheck] at h
      split at h
      · split at h
        · cases h; left; rfl
        · exact ih _ _ h
      · exact ih _ _ h
    | _ => simp only [quantBodyCheck] at h; exact ih _ _ h

theorem mkQuant_err {q : Quant} {x : String} {d b : Expr} {e : Err} (h : mkQuant q x d b = .error e) : e = .type ∨ e = .sanity := by
  rcases bind_err h with h1 | ⟨_, -, h⟩
  · exact .inl (castE_error h1)
  · rcases bind_err h with h2 | ⟨_, -, h⟩
    · exact .inl (castE_error h2)
    · rcases ite_eq h with ⟨-, h⟩ | ⟨-, h⟩
      · exact .inr (Except.error.inj h).symm
      · rcases bind_err h with h3 | ⟨_, -, h⟩
        · exact quantBodyCheck_err _ _ _ _ _ h3
        · rcases ite_eq h with ⟨-, h⟩ | ⟨-, h⟩
          · exact .inr (Except.error.inj h).symm
          · cases h

def Doc3 (x : Err) : Prop := x = .type ∨ x = .sanity ∨ x = .value

theorem Doc3.documented {x : Err} (h : Doc3 x) : x.documented := by
  rcases h with h | h | h <;> subst h <;> trivial

theorem Doc3.of_error {x : Err} {p : Prop} (h : p ∧ x = .value ∨ x = .type) : Doc3 x := h.elim (.inr ∘ .inr ∘ And.right) .inl
theorem Doc3.of_type_sanity {x : Err} (h : x = .type ∨ x = .sanity) : Doc3 x := h.elim .inl (.inr ∘ .inl)

mutual
/-- **C07 (validator layer)**: building an AST from any untyped tree fails only with TypeError, a sanity error or
    ValueError (unknown operator / function) — never with an internal failure -/
theorem build_err_documented : ∀ (r : Raw) (x : Err), build r = .error x → x = .type ∨ x = .sanity ∨ x = .value
  | .lit .., x, h | .this, x, h | .var _, x, h => by cases h
  | .set vs, x, h => bind_err_class Doc3 (buildList_err_documented vs x) (fun _ h => .inl (mkSet_error h)) h
  | .range lo hi a b, x, h => bind_err_class Doc3 (build_err_documented lo x) (fun _ h =>
      bind_err_class Doc3 (build_err_documented hi x) (fun _ h => .inl (mkRange_error h)) h) h
  | .quant q v d b, x, h => bind_err_class Doc3 (build_err_documented d x) (fun _ h =>
      bind_err_class Doc3 (build_err_documented b x) (fun _ h => Doc3.of_type_sanity (mkQuant_err h)) h) h
  | .un op a, x, h => bind_err_class Doc3 (build_err_documented a x) (fun _ h => Doc3.of_error (mkUn_error h)) h
  | .bin op a b, x, h => bind_err_class Doc3 (build_err_documented a x) (fun _ h =>
      bind_err_class Doc3 (build_err_documented b x) (fun _ h => Doc3.of_error (mkBin_error h)) h) h
  | .call f args, x, h => bind_err_class Doc3 (buildList_err_documented args x) (fun _ h => Doc3.of_error (mkCall_error h)) h
  | .field m n, x, h => bind_err_class Doc3 (build_err_documented m x) (fun _ h => .inl (mkFieldT_error h)) h
  | .index a i, x, h => bind_err_class Doc3 (build_err_documented a x) (fun _ h =>
      bind_err_class Doc3 (build_err_documented i x) (fun _ h => .inl (mkIndexT_error h)) h) h
theorem buildList_err_documented : ∀ (rs : RawList) (x : Err), buildList rs = .error x → x = .type ∨ x = .sanity ∨ x = .value
  | .nil, x, h => by cases h
  | .cons r rs, x, h => bind_err_class Doc3 (build_err_documented r x) (fun _ h =>
      bind_err_class Doc3 (buildList_err_documented rs x) (fun _ h => by cases h) h) h
end

/-- the assertion of `predicate_from_expression` (a literal that can be boolean holds a bool) cannot fail on built trees -/
theorem predFromExpr_err_documented (e : Expr) (hw : WT e) (x : Err) (h : predFromExpr e = .error x) : x = .type := by
  unfold predFromExpr at h
  split at h
  · cases h; rfl
  · rename_i hb
    split at h
    · cases h
    · -- a well-typed literal whose type meets BOOL is a boolean literal
      rename_i t k v hnb
      exfalso
      have : t = v.ty := hw
      subst this
      cases v with
      | bool b => exact hnb b rfl
      | _ => exact hb (by simp [Expr.ty, LitVal.ty]; decide)
    · unfold mkPred at h
      rcases bind_err h with h1 | ⟨_, _, h⟩
      · exact castE_error h1
      · split at h
        · cases h
        · cases h; rfl

/-- **C07**: the predicate and expression entry points of the model fail only with documented classes -/
theorem parseExpression_documented (s : String) (x : Err) (h : parseExpression s = .error x) : x.documented := by
  unfold parseExpression at h
  split at h
  · cases h; trivial
  · split at h
    · cases h; trivial
    · exact Doc3.documented (build_err_documented _ _ h)

theorem parsePredicate_documented (s : String) (x : Err) (h : parsePredicate s = .error x) : x.documented := by
  unfold parsePredicate at h
  split at h
  · cases h; trivial
  · split at h
    · cases h; trivial
    · rename_i r _
      rcases bind_err h with h1 | ⟨e, he, h⟩
      · exact Doc3.documented (build_err_documented _ _ h1)
      · have := predFromExpr_err_documented e (build_WT r e he) x h
        subst this; trivial

end Hpl
