import Hpl.Props.C18c
import Hpl.Props.C01e
/-!
# C18 — the converse: a file that parses is a sequence of texts that parse on their own

`Trunc p`: what a property-level parser function consumed, given to it alone, is read to the same result with nothing left.
This goes through the property grammar of `Spec/GrammarProp.lean`: what a function consumed is a phrase of the grammar with the tree
it returned (`pEvent_snd`, …, `pProperty_snd`; for predicates by `parse_snd`), and a phrase of the grammar is read back whatever follows
it, as long as what follows cannot continue it (`rsimple_whole`, `revent_parse`, …, `rproperty_whole`; for predicates by
`parse_predicate_complete`, which reads with the fuel of the shorter text; elsewhere with the extension lemmas of `Props/C18c`).
So `pProperty ts = ok (p, rest)` implies `parsePropertyToks pre = ok p` for the consumed prefix, and
**`parseFileToks_iff`**: a token text parses as a file to `rs` iff it is the concatenation of texts parsing to the members of `rs`.
-/
namespace Hpl

def Trunc {α : Type} (p : List Tok → PR (α × List Tok)) : Prop :=
  ∀ ts r rest, p ts = .ok (r, rest) → ∃ pre, ts = pre ++ rest ∧ p pre = .ok (r, [])

theorem parsePredicateToks_ok {ts : List Tok} {r : Raw} (h : parsePredicateToks ts = .ok r) : pPredicate ts = .ok (r, []) := by
  obtain ⟨q, rest, hp, h2⟩ := bind_ok_pair h
  cases rest with
  | nil => cases Except.ok.inj h2; exact hp
  | cons _ _ => cases h2

theorem pPredicate_snd {ts : List Tok} {r : Raw} {rest : List Tok} (h : pPredicate ts = .ok (r, rest)) :
    ∃ pre, ts = pre ++ rest ∧ RPred (some r) pre := by
  obtain ⟨t, r0, c, rfl, ho, h1, hc⟩ := pPredicate_ok h
  obtain ⟨pre, rfl, hr⟩ := (parse_snd _).cond r0 r (c :: rest) h1
  exact ⟨t :: (pre ++ [c]), by simp, .some t c ho hc hr⟩

theorem pEventBody_snd {name : String} {al : Option String} {ts : List Tok} {s : RawSimple} {rest : List Tok}
    (h : pEventBody name al ts = .ok (s, rest)) : ∃ pre pred, ts = pre ++ rest ∧ s = ⟨name, al, pred⟩ ∧ RPred pred pre := by
  rcases pEventBody_ok h with ⟨p, h1, rfl⟩ | ⟨_, rfl, rfl⟩
  · obtain ⟨pre, hpre, hp⟩ := pPredicate_snd h1
    exact ⟨pre, some p, hpre, rfl, hp⟩
  · exact ⟨[], none, rfl, rfl, .none⟩

theorem pEvent_snd {ts : List Tok} {s : RawSimple} {rest : List Tok} (h : pEvent ts = .ok (s, rest)) :
    ∃ pre, ts = pre ++ rest ∧ RSimple s pre := by
  obtain ⟨n, r0, rfl, hk, hn, hc⟩ := pEvent_ok h
  rcases hc with ⟨a, v, r2, rfl, ha, hvk, hv, hb⟩ | ⟨_, hb⟩
  · obtain ⟨pre, pred, rfl, rfl, hp⟩ := pEventBody_snd hb
    exact ⟨n :: ([a, v] ++ pre), rfl, .mk n hk hn (.some a v ha hvk hv) hp⟩
  · obtain ⟨pre, pred, rfl, rfl, hp⟩ := pEventBody_snd hb
    exact ⟨n :: ([] ++ pre), rfl, .mk n hk hn .none hp⟩

theorem pDisjTail_snd {f : Nat} {acc : List RawSimple} {ts : List Tok} {r : RawEvent} {rest : List Tok}
    (h : pDisjTail f acc ts = .ok (r, rest)) :
    ∃ pre c alts, ts = pre ++ c :: rest ∧ isSym c ")" = true ∧ RAlts alts pre ∧ r = .disj (acc.reverse ++ alts) ∧
      (acc ≠ [] ∨ 2 ≤ alts.length) := by
  induction f generalizing acc ts with
  | zero => cases h
  | succ n ih =>
    obtain ⟨f0, e, t, r1, hf0, he, hc⟩ := pDisjTail_ok h
    cases hf0
    obtain ⟨pe, rfl, hpe⟩ := pEvent_snd he
    rcases hc with ⟨hor, hd⟩ | ⟨hcl, hne, rfl, rfl⟩
    · obtain ⟨pre1, c, alts, rfl, hc, halts, rfl, _⟩ := ih hd
      refine ⟨pe ++ t :: pre1, c, e :: alts, by simp, hc, .cons t hpe hor halts, by simp, .inr ?_⟩
      have : 1 ≤ alts.length := by cases halts <;> simp
      simp only [List.length_cons]; omega
    · exact ⟨pe, t, [e], rfl, hcl, .last hpe, by simp, .inl hne⟩

theorem pAnyEvent_snd {ts : List Tok} {e : RawEvent} {rest : List Tok} (h : pAnyEvent ts = .ok (e, rest)) :
    ∃ pre, ts = pre ++ rest ∧ REvent e pre := by
  obtain ⟨t, r0, rfl, hc⟩ := pAnyEvent_ok h
  rcases hc with ⟨hp, hd⟩ | ⟨_, s, he, rfl⟩
  · obtain ⟨pre, c, alts, rfl, hc, halts, rfl, hlen⟩ := pDisjTail_snd hd
    exact ⟨t :: (pre ++ [c]), by simp, by simpa using REvent.disj t c hp hc (hlen.resolve_left (fun hh => hh rfl)) halts⟩
  · obtain ⟨pre, hpre, hs⟩ := pEvent_snd he
    exact ⟨pre, hpre, .simple hs⟩

theorem pTimeBound_snd {ts : List Tok} {tb : Option (Rat × TimeUnit)} {rest : List Tok} (h : pTimeBound ts = .ok (tb, rest)) :
    ∃ pre, ts = pre ++ rest ∧ RTime tb pre := by
  rcases pTimeBound_ok h with ⟨_, rfl, rfl⟩ | ⟨w, n, u, v, unit, rfl, hw, hn, hd, hu, rfl⟩
  · exact ⟨[], rfl, .none⟩
  · exact ⟨[w, n, u], rfl, .some w n u v unit hw hn hd hu⟩

theorem pEvTb_snd {mk : RawEvent → Option (Rat × TimeUnit) → RawProperty} {ts : List Tok} {p : RawProperty} {rest : List Tok}
    (h : pEvTb mk ts = .ok (p, rest)) : ∃ b tb pb pt, ts = pb ++ pt ++ rest ∧ p = mk b tb ∧ REvent b pb ∧ RTime tb pt := by
  obtain ⟨b, r, tb, h1, h3, rfl⟩ := pEvTb_ok h
  obtain ⟨pb, rfl, hb⟩ := pAnyEvent_snd h1
  obtain ⟨pt, rfl, ht⟩ := pTimeBound_snd h3
  exact ⟨b, tb, pb, pt, by simp, rfl, hb, ht⟩

theorem pPattern_snd {sk : ScopeKind} {act term : Option RawEvent} {md : List (String × String)} {ts : List Tok} {p : RawProperty}
    {rest : List Tok} (h : pPattern sk act term md ts = .ok (p, rest)) :
    ∃ pk beh trig tb pts tts, ts = pts ++ tts ++ rest ∧ p = ⟨sk, act, term, pk, beh, trig, tb, md⟩ ∧ RPattern pk beh trig pts ∧ RTime tb tts := by
  obtain ⟨t, r0, rfl, hc⟩ := pPattern_ok h
  rcases hc with ⟨h1, he⟩ | ⟨h2, he⟩ | ⟨h1, h2, e1, k, r2, w, hw, ha, hk, he⟩
  · obtain ⟨b, tb, pb, pt, rfl, rfl, hb, ht⟩ := pEvTb_snd he
    exact ⟨.existence, b, none, tb, t :: pb, pt, by simp, rfl, .existence t h1 hb, ht⟩
  · obtain ⟨b, tb, pb, pt, rfl, rfl, hb, ht⟩ := pEvTb_snd he
    exact ⟨.absence, b, none, tb, t :: pb, pt, by simp, rfl, .absence t h2 hb, ht⟩
  · obtain ⟨p1, hp1, he1⟩ := pAnyEvent_snd ha
    obtain ⟨e2, tb, pb, pt, rfl, rfl, hb, ht⟩ := pEvTb_snd he
    have hns : notSomeNo p1 := by
      rintro t' tl rfl
      cases (List.cons.inj hp1).1
      exact ⟨h1, h2⟩
    have hts : t :: r0 = (p1 ++ k :: pb) ++ pt ++ rest := by
      rw [hp1]; simp
    simp only [binPattern, List.mem_cons, List.not_mem_nil, or_false] at hw
    rcases hw with rfl | rfl | rfl
    · exact ⟨.response, e2, some e1, tb, _, pt, hts, rfl, .response k hk hns he1 hb, ht⟩
    · exact ⟨.prevention, e2, some e1, tb, _, pt, hts, rfl, .prevention k hk hns he1 hb, ht⟩
    · exact ⟨.requirement, e1, some e2, tb, _, pt, hts, rfl, .requirement k hk hns he1 hb, ht⟩

theorem pScope_snd {ts : List Tok} {sk : ScopeKind} {a q : Option RawEvent} {rest : List Tok}
    (h : pScope ts = .ok (sk, a, q, rest)) : ∃ pre, ts = pre ++ rest ∧ RScope sk a q pre := by
  obtain ⟨t, r0, rfl, hc⟩ := pScope_ok h
  rcases hc with ⟨h1, rfl, rfl, rfl, rfl⟩ | ⟨h2, e, r1, ha, rfl, hc⟩ | ⟨h3, e, ha, rfl, rfl, rfl⟩
  · exact ⟨[t], rfl, .global t h1⟩
  · obtain ⟨pa, rfl, hea⟩ := pAnyEvent_snd ha
    rcases hc with ⟨u, r2, e2, rfl, hu, hb, rfl, rfl⟩ | ⟨_, rfl, rfl, rfl⟩
    · obtain ⟨pq, rfl, heq⟩ := pAnyEvent_snd hb
      exact ⟨t :: (pa ++ u :: pq), by simp, .afterUntil t u h2 hu hea heq⟩
    · exact ⟨t :: pa, rfl, .after t h2 hea⟩
  · obtain ⟨pa, rfl, hea⟩ := pAnyEvent_snd ha
    exact ⟨t :: pa, rfl, .until_ t h3 hea⟩

theorem pMetadata_snd {f : Nat} {acc : List (String × String)} {ts : List Tok} {md : List (String × String)} {rest : List Tok}
    (h : pMetadata f acc ts = .ok (md, rest)) : ∃ pre items, ts = pre ++ rest ∧ md = acc ++ items ∧ RMeta items pre := by
  induction f generalizing acc ts with
  | zero => cases h
  | succ n ih =>
    rcases pMetadata_ok h with ⟨_, rfl, rfl⟩ | ⟨f0, hd, k, c, v, r0, key, hf0, rfl, hh, hc, hk, hm⟩
    · exact ⟨[], [], rfl, by simp, .nil⟩
    · cases hf0
      obtain ⟨pre0, items0, rfl, rfl, hm0⟩ := ih hm
      exact ⟨hd :: k :: c :: v :: pre0, (key, v.text) :: items0, by simp, by simp, .item hd k c v key hh hc hk hm0⟩

theorem pProperty_snd {ts : List Tok} {p : RawProperty} {rest : List Tok} (h : pProperty ts = .ok (p, rest)) :
    ∃ pre, ts = pre ++ rest ∧ RProperty p pre := by
  obtain ⟨md, r1, sk, act, term, c, r3, h1, h2, hc, h3⟩ := pProperty_ok h
  obtain ⟨pm, items, hpm, rfl, hm⟩ := pMetadata_snd h1
  obtain ⟨ps, rfl, hs⟩ := pScope_snd h2
  obtain ⟨pk, beh, trig, tb, pts, tts, rfl, rfl, hp, ht⟩ := pPattern_snd h3
  exact ⟨pm ++ (ps ++ c :: (pts ++ tts)), by rw [hpm]; simp, by simpa using RProperty.mk c hm hs hc hp ht⟩

theorem stopsEv_kw {t : Tok} {w : String} {rest : List Tok} (h : isKw t w = true) (hw : w ≠ "as" := by decide) : stopsEv (t :: rest) :=
  ⟨isKw_other h hw, isSym_of_kw h⟩

theorem stopsEv_sym {t : Tok} {w : String} {rest : List Tok} (h : isSym t w = true) (hw : w ≠ "{" := by decide) : stopsEv (t :: rest) :=
  ⟨isKw_of_sym h, isSym_other h hw⟩

theorem rpred_whole {pred : Option Raw} {pr : List Tok} (h : RPred pred pr) (name : String) (al : Option String) :
    pEventBody name al pr = .ok (⟨name, al, pred⟩, []) := by
  cases h with
  | none => rfl
  | some o c ho hc hr => exact pEventBody_some (parsePredicateToks_ok (parse_predicate_complete hr o c ho hc))

theorem rsimple_whole {s : RawSimple} {pre : List Tok} (h : RSimple s pre) : pEvent pre = .ok (s, []) := by
  cases h with
  | mk n hk hn hal hpr =>
    cases hal with
    | none =>
      refine (pEvent_plain hk hn ?_).trans (rpred_whole hpr n.text none)
      cases hpr with
      | none => exact NoHead.nil _
      | some o c ho hc hr => exact NoHead.cons (isKw_of_sym ho) _
    | some a v ha hvk hvn => exact (pEvent_alias hk hn ha hvk hvn).trans (rpred_whole hpr n.text (some v.text))

theorem rsimple_head {s : RawSimple} {pre : List Tok} (h : RSimple s pre) : ∃ n tl, pre = n :: tl ∧ n.kind = .word := by
  cases h with
  | mk n hk _ _ _ => exact ⟨n, _, rfl, hk⟩

theorem ralts_len {alts : List RawSimple} {ts : List Tok} (h : RAlts alts ts) : alts.length ≤ ts.length := by
  induction h with
  | @last s ts hs =>
    obtain ⟨n, tl, rfl, _⟩ := rsimple_head hs
    simp
  | @cons s ts rest ts' k hs _ _ ih =>
    obtain ⟨n, tl, rfl, _⟩ := rsimple_head hs
    simp only [List.length_cons, List.length_append]
    omega

theorem ralts_parse {alts : List RawSimple} {ts : List Tok} (h : RAlts alts ts) : ∀ (f : Nat) (acc : List RawSimple) (c : Tok) (more : List Tok),
    isSym c ")" = true → (acc ≠ [] ∨ 2 ≤ alts.length) → alts.length ≤ f →
    pDisjTail f acc (ts ++ c :: more) = .ok (.disj (acc.reverse ++ alts), more) := by
  induction h with
  | @last s ts hs =>
    intro f acc c more hc hacc hf
    obtain ⟨f', rfl⟩ : ∃ n, f = n + 1 := ⟨f - 1, by simp at hf; omega⟩
    have hev := pEvent_extE ts s [] (c :: more) (rsimple_whole hs) (fun _ => stopsEv_sym hc)
    simpa using pDisjTail_close (f := f') hev hc (hacc.resolve_right (by simp))
  | @cons s ts rest ts' k hs hk _ ih =>
    intro f acc c more hc _ hf
    obtain ⟨f', rfl⟩ : ∃ n, f = n + 1 := ⟨f - 1, by simp at hf; omega⟩
    have hev := pEvent_extE ts s [] (k :: (ts' ++ c :: more)) (rsimple_whole hs) (fun _ => stopsEv_kw hk)
    rw [List.append_assoc, List.cons_append, pDisjTail_or hev hk,
      ih f' (s :: acc) c more hc (.inl (List.cons_ne_nil _ _)) (by simp only [List.length_cons] at hf; omega)]
    simp

theorem revent_parse {e : RawEvent} {pre : List Tok} (h : REvent e pre) (more : List Tok) (hm : stopsEv more) :
    pAnyEvent (pre ++ more) = .ok (e, more) := by
  cases h with
  | simple hs =>
    obtain ⟨n, tl, rfl, hk⟩ := rsimple_head hs
    exact pAnyEvent_simple (notSym_of_kind (by rw [hk]; decide) _) (pEvent_extE _ _ [] more (rsimple_whole hs) (fun _ => hm))
  | @disj alts ts o c ho hc hlen halts =>
    rw [List.cons_append, List.append_assoc, pAnyEvent_disj _ ho]
    exact ralts_parse halts _ [] c more hc (.inr hlen) (by
      have := ralts_len halts
      simp only [List.length_cons, List.length_append]; omega)

theorem revent_ne {e : RawEvent} {pre : List Tok} (h : REvent e pre) : pre ≠ [] := by
  cases h with
  | simple hs => obtain ⟨n, tl, rfl, _⟩ := rsimple_head hs; exact List.cons_ne_nil _ _
  | disj => exact List.cons_ne_nil _ _

theorem rtime_whole {tb : Option (Rat × TimeUnit)} {pre : List Tok} (h : RTime tb pre) : pTimeBound pre = .ok (tb, []) ∧ stopsEv pre := by
  cases h with
  | none => exact ⟨rfl, trivial⟩
  | some w n u v unit hw hn hd hu => exact ⟨pTimeBound_within hw hn hd hu, stopsEv_kw hw⟩

theorem evtb_parse (mk : RawEvent → Option (Rat × TimeUnit) → RawProperty) {b : RawEvent} {pb : List Tok} {tb : Option (Rat × TimeUnit)}
    {pt : List Tok} (hb : REvent b pb) (ht : RTime tb pt) : pEvTb mk (pb ++ pt) = .ok (mk b tb, []) :=
  pEvTb_of (revent_parse hb pt (rtime_whole ht).2) (rtime_whole ht).1

theorem rpattern_parse (sk : ScopeKind) (act term : Option RawEvent) (md : List (String × String)) {pk : PatternKind} {beh : RawEvent}
    {trig : Option RawEvent} {pts : List Tok} {tb : Option (Rat × TimeUnit)} {tts : List Tok} (hp : RPattern pk beh trig pts) (ht : RTime tb tts) :
    pPattern sk act term md (pts ++ tts) = .ok (⟨sk, act, term, pk, beh, trig, tb, md⟩, []) := by
  have bin : ∀ {e1 e2 : RawEvent} {t1 t2 : List Tok} {k : Tok} (kw : String) (mk : RawEvent → Option (Rat × TimeUnit) → RawProperty),
      (kw, mk) ∈ binPattern sk act term md e1 → isKw k kw = true → kw ≠ "as" → notSomeNo t1 → REvent e1 t1 → REvent e2 t2 →
      pPattern sk act term md ((t1 ++ k :: t2) ++ tts) = .ok (mk e2 tb, []) := by
    intro e1 e2 t1 t2 k kw mk hw hk hw1 hns h1 h2
    obtain ⟨t, tl, rfl⟩ := List.exists_cons_of_ne_nil (revent_ne h1)
    obtain ⟨hs, hn⟩ := hns t tl rfl
    have hev := revent_parse h1 (k :: (t2 ++ tts)) (stopsEv_kw hk hw1)
    simp only [List.append_assoc, List.cons_append] at hev ⊢
    exact (pPattern_bin (w := (kw, mk)) hs hn hev hk hw).trans (evtb_parse mk h2 ht)
  cases hp with
  | existence t h1 hb => exact (pPattern_some _ h1).trans (evtb_parse _ hb ht)
  | absence t h1 hb => exact (pPattern_no _ h1).trans (evtb_parse _ hb ht)
  | response k hk hns h1 h2 => exact bin "causes" _ (List.mem_cons_self ..) hk (by decide) hns h1 h2
  | prevention k hk hns h1 h2 => exact bin "forbids" _ (List.mem_cons_of_mem _ (List.mem_cons_self ..)) hk (by decide) hns h1 h2
  | requirement k hk hns h1 h2 =>
    exact bin "requires" _ (List.mem_cons_of_mem _ (List.mem_cons_of_mem _ (List.mem_cons_self ..))) hk (by decide) hns h1 h2

theorem rscope_parse {sk : ScopeKind} {a q : Option RawEvent} {sts : List Tok} (h : RScope sk a q sts) (c : Tok) (more : List Tok)
    (hc : isSym c ":" = true) : pScope (sts ++ c :: more) = .ok (sk, a, q, c :: more) := by
  have hst : stopsEv (c :: more) := stopsEv_sym hc
  cases h with
  | global t h1 => exact pScope_globally _ h1
  | after t h1 he => exact pScope_after h1 (revent_parse he _ hst) (NoHead.cons (isKw_of_sym hc) _)
  | afterUntil t u h1 hu he1 he2 =>
    rw [List.cons_append, List.append_assoc, List.cons_append]
    exact pScope_afterUntil h1 (revent_parse he1 _ (stopsEv_kw hu)) hu (revent_parse he2 _ hst)
  | until_ t h1 he => exact pScope_until h1 (revent_parse he _ hst)

theorem rscope_head {sk : ScopeKind} {a q : Option RawEvent} {sts : List Tok} (h : RScope sk a q sts) :
    ∃ t tl, sts = t :: tl ∧ isSym t "#" = false := by
  cases h with
  | global t h1 | after t h1 _ | afterUntil t _ h1 _ _ _ | until_ t h1 _ => exact ⟨t, _, rfl, isSym_of_kw h1⟩

theorem rmeta_parse {items : List (String × String)} {mts : List Tok} (h : RMeta items mts) : ∀ (f : Nat) (acc : List (String × String))
    (more : List Tok), NoHead (isSym · "#") more → mts.length < f → pMetadata f acc (mts ++ more) = .ok (acc ++ items, more) := by
  induction h with
  | nil =>
    intro f acc more hm hf
    obtain ⟨f', rfl⟩ : ∃ n, f = n + 1 := ⟨f - 1, by omega⟩
    simpa using pMetadata_noHash f' acc hm
  | @item rest ts hd k c v key hh hc hk _ ih =>
    intro f acc more hm hf
    obtain ⟨f', rfl⟩ : ∃ n, f = n + 1 := ⟨f - 1, by omega⟩
    have hrec := ih f' (acc ++ [(key, v.text)]) more hm (by simp only [List.length_cons] at hf; omega)
    exact (pMetadata_item _ _ _ hh hc hk).trans (by simpa using hrec)

theorem rproperty_whole {p : RawProperty} {ts : List Tok} (h : RProperty p ts) : pProperty ts = .ok (p, []) := by
  cases h with
  | @mk md mts sk act term sts pk beh trig pts tb tts c hm hs hc hp ht =>
    obtain ⟨t0, tl0, rfl, hhash⟩ := rscope_head hs
    have hmeta := rmeta_parse hm ((mts ++ (t0 :: tl0 ++ c :: (pts ++ tts))).length + 1) [] (t0 :: tl0 ++ c :: (pts ++ tts)) (NoHead.cons hhash _)
      (by simp only [List.length_append]; omega)
    exact (pProperty_of hmeta (rscope_parse hs c (pts ++ tts) hc) hc).trans (rpattern_parse sk act term _ hp ht)

theorem pPredicate_trunc : Trunc pPredicate := by
  intro ts r rest h
  obtain ⟨pre, hpre, hp⟩ := pPredicate_snd h
  cases hp with
  | some o c ho hc hr => exact ⟨_, hpre, parsePredicateToks_ok (parse_predicate_complete hr o c ho hc)⟩

theorem pEvent_trunc : Trunc pEvent := by
  intro ts r rest h
  obtain ⟨pre, hpre, hs⟩ := pEvent_snd h
  exact ⟨pre, hpre, rsimple_whole hs⟩

theorem pDisjTail_trunc : ∀ (f : Nat) (acc : List RawSimple) (ts : List Tok) (r : RawEvent) (rest : List Tok),
    pDisjTail f acc ts = .ok (r, rest) →
    ∃ pre, ts = pre ++ rest ∧ ∀ f', pre.length ≤ f' → pDisjTail f' acc pre = .ok (r, []) := by
  intro f acc ts r rest h
  obtain ⟨pre, c, alts, rfl, hc, halts, rfl, hacc⟩ := pDisjTail_snd h
  refine ⟨pre ++ [c], by simp, fun f' hf' => ralts_parse halts f' acc c [] hc hacc ?_⟩
  have := ralts_len halts
  simp only [List.length_append] at hf'
  omega

theorem pAnyEvent_trunc : Trunc pAnyEvent := by
  intro ts r rest h
  obtain ⟨pre, hpre, he⟩ := pAnyEvent_snd h
  exact ⟨pre, hpre, by simpa using revent_parse he [] trivial⟩

theorem pTimeBound_trunc : Trunc pTimeBound := by
  intro ts r rest h
  obtain ⟨pre, hpre, ht⟩ := pTimeBound_snd h
  exact ⟨pre, hpre, (rtime_whole ht).1⟩

theorem pPattern_trunc (sk : ScopeKind) (act term : Option RawEvent) (md : List (String × String)) : Trunc (pPattern sk act term md) := by
  intro ts p rest h
  obtain ⟨pk, beh, trig, tb, pts, tts, hts, rfl, hp, ht⟩ := pPattern_snd h
  exact ⟨pts ++ tts, hts, rpattern_parse sk act term md hp ht⟩

/-- the scope: what it consumed, followed by the colon, is read to the same scope -/
theorem pScope_trunc (ts : List Tok) (sk : ScopeKind) (a q : Option RawEvent) (rest : List Tok)
    (h : pScope ts = .ok (sk, a, q, rest)) :
    ∃ pre, ts = pre ++ rest ∧ pre ≠ [] ∧ (∀ t tl, pre = t :: tl → isSym t "#" = false) ∧
      ∀ c more, isSym c ":" = true → pScope (pre ++ c :: more) = .ok (sk, a, q, c :: more) := by
  obtain ⟨pre, hpre, hs⟩ := pScope_snd h
  obtain ⟨t, tl, rfl, hh⟩ := rscope_head hs
  exact ⟨_, hpre, List.cons_ne_nil _ _, NoHead.cons hh _, rscope_parse hs⟩

theorem pMetadata_loc : ∀ (f : Nat) (acc : List (String × String)) (ts : List Tok) (r : List (String × String)) (rest : List Tok),
    pMetadata f acc ts = .ok (r, rest) →
    ∃ pre, ts = pre ++ rest ∧ ∀ f' more, pre.length < f' → (∀ t tl, more = t :: tl → isSym t "#" = false) →
      pMetadata f' acc (pre ++ more) = .ok (r, more) := by
  intro f acc ts r rest h
  obtain ⟨pre, items, hpre, rfl, hm⟩ := pMetadata_snd h
  exact ⟨pre, hpre, fun f' more hf' hmore => rmeta_parse hm f' acc more hmore hf'⟩

/-- **truncation of a property**: the tokens a property consumed parse, on their own, to that property -/
theorem pProperty_trunc : Trunc pProperty := by
  intro ts p rest h
  obtain ⟨pre, hpre, hr⟩ := pProperty_snd h
  exact ⟨pre, hpre, rproperty_whole hr⟩

/-- the file loop splits its input into texts that parse on their own -/
theorem pFile_split : ∀ (f : Nat) (acc : List RawProperty) (ts : List Tok) (rs : List RawProperty), pFile f acc ts = .ok rs →
    ∃ chunks : List (List Tok × RawProperty), chunks ≠ [] ∧ ts = fileToks chunks ∧ rs = acc ++ chunks.map (·.2) ∧
      ∀ c ∈ chunks, parsePropertyToks c.1 = .ok c.2 := by
  intro f
  induction f with
  | zero => intro acc ts rs h; cases h
  | succ f ih =>
    intro acc ts rs h
    obtain ⟨f0, p, rest, hf0, hp, hc⟩ := pFile_ok h
    cases hf0
    obtain ⟨pre, rfl, hpre⟩ := pProperty_trunc ts p rest hp
    rcases hc with ⟨rfl, rfl⟩ | ⟨_, h2⟩
    · exact ⟨[(pre, p)], List.cons_ne_nil _ _, rfl, rfl, List.forall_mem_singleton.2 (parsePropertyToks_of hpre)⟩
    · obtain ⟨chunks, hne, rfl, rfl, hall⟩ := ih (acc ++ [p]) rest rs h2
      exact ⟨(pre, p) :: chunks, List.cons_ne_nil _ _, rfl, List.append_assoc acc [p] _,
        List.forall_mem_cons.2 ⟨parsePropertyToks_of hpre, hall⟩⟩

/-- **C18, exact**: a token text parses as a file to `rs` if and only if it is the concatenation of k ≥ 1 texts, each parsing as a
    property on its own, and `rs` are their results in order.  In particular a text that is *not* such a concatenation - one of whose
    properties is malformed, however the text is cut - is rejected as a whole. -/
theorem parseFileToks_iff (ts : List Tok) (rs : List RawProperty) :
    parseFileToks ts = .ok rs ↔
    ∃ chunks : List (List Tok × RawProperty), chunks ≠ [] ∧ ts = fileToks chunks ∧ rs = chunks.map (·.2) ∧
      ∀ c ∈ chunks, parsePropertyToks c.1 = .ok c.2 := by
  constructor
  · intro h
    obtain ⟨chunks, hne, hts, hrs, hall⟩ := pFile_split _ [] ts rs h
    exact ⟨chunks, hne, hts, by simpa using hrs, hall⟩
  · rintro ⟨chunks, hne, rfl, rfl, hall⟩
    exact parseFileToks_concat chunks hall hne

end Hpl
