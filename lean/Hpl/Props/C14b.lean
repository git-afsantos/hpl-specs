import Hpl.Props.C13d
import Hpl.Props.C15
import Hpl.Props.C10b
import Hpl.Props.C03c
/-! C14, totality proper for `refactor_reference`: on a well-typed tree whose quantifier and call nodes pass their constructors
    (`Rebuildable`: what `build` returns, `build_rebuildable`), no constructor call inside the rewrite fails, and both halves it
    returns are again such trees.

    The heart is the quantifier constructor: what `HplQuantifier` checks of a condition (`quantBodyCheck`) is a statement about
    each node of the condition separately plus "the variable occurs", so it passes from a condition to each of its
    conjuncts that still mention the variable (`mkForall_part`). -/
namespace Hpl

/-- **the quantifier constructor accepts every part of an accepted condition that still mentions the variable**: if
    `HplQuantifier(q, x, d, body)` was accepted, then so is `Forall(x, d, a)` for every boolean `a` that mentions `x` and whose nodes
    are nodes of `body`, or new nodes that are neither variables nor quantifiers -/
theorem mkForall_part {q : Quant} {x : String} {d body a e : Expr} (hd : sub d.ty T.COMPOUND) (hb : sub body.ty T.BOOL)
    (hnd : d.ty ≠ 0) (hnb : body.ty ≠ 0) (h : mkQuant q x d body = .ok e)
    (ha : sub a.ty T.BOOL) (hna : a.ty ≠ 0)
    (hnodes : ∀ n ∈ a.preorder, n ∈ body.preorder ∨ (bindsName x n = false ∧ isVarNamed x n = false))
    (hx : a.containsRef x = true) : mkForall x d a = .ok (.quant T.BOOL .all x d a) := by
  obtain ⟨hdv, ⟨u, hu, _⟩, _⟩ := mkQuant_facts hd hb hnd hnb h
  have hbody := (quantBodyCheck_spec x _ _ _ _ hu).1
  have hA1 : ∀ n ∈ a.preorder, bindsName x n = false :=
    fun n hn => (hnodes n hn).elim (fun hm => (hbody n hm).1) And.left
  have hA2 : ∀ ty, Expr.var ty x ∈ a.preorder → ty &&& domainElemType d ≠ 0 := by
    intro ty hn
    rcases hnodes _ hn with hm | ⟨_, h2⟩
    · exact (hbody _ hm).2 (beq_self_eq_true x)
    · simp [isVarNamed] at h2
  obtain ⟨k', hk, _, hlt⟩ := quantBodyCheck_complete x (domainElemType d) a.preorder 0 hA1 hA2
  have hex : ∃ ty, Expr.var ty x ∈ a.preorder := by
    rw [Expr.containsRef_iff, List.any_eq_true] at hx
    obtain ⟨n, hn, hp⟩ := hx
    cases n with
    | var ty y =>
        simp only [isVarNamed, beq_iff_eq] at hp
        subst hp
        exact ⟨ty, hn⟩
    | _ => simp [isVarNamed] at hp
  exact mkQuant_ok_iff.2 ⟨d, a, k', castE_stable hd hnd, castE_stable ha hna, hdv, hk, Nat.ne_of_gt (hlt hex), rfl⟩

/-- inside an atomic type and not empty is equal to it -/
theorem bool_of_sub {t : Nat} (hs : sub t T.BOOL) (hne : t ≠ 0) : t = T.BOOL := atomic_eq atomic_bool hs hne

/-- the table entry of `len` (stated with the generated constants, so that neither the numbering of the types nor the order of
    the function table matters) -/
theorem len_table : (findFun "len").map (·.overloads) = some [⟨[T.COMPOUND], T.NUMBER, none⟩] := by decide

/-- `len(d)` is accepted, unchanged, for every domain a quantifier can hold -/
theorem lenCall_ok {d : Expr} (hd : sub d.ty T.COMPOUND) (hnd : d.ty ≠ 0) :
    mkCall "len" (.cons d .nil) = .ok (.call T.NUMBER "len" (.cons d .nil)) := by
  have htab := len_table
  cases hf : findFun "len" with
  | none => rw [hf] at htab; cases htab
  | some fd =>
    rw [hf] at htab
    simp only [Option.map_some, Option.some.injEq] at htab
    have hres : fd.result = T.NUMBER := by
      unfold FunDef.result; rw [htab]; decide
    rw [← hres]
    exact mkCall_stable hf (s := ⟨[T.COMPOUND], T.NUMBER, none⟩) (by rw [htab]; exact List.mem_singleton.2 rfl)
      ⟨Nat.le_refl _, Or.inl (Nat.le_refl _)⟩ (by simpa [ArgsInside, ExprList.tys, Sig.paramsFor] using hd)
      (by simpa [ExprList.tys] using hnd)

/-- `empty_test(d)` is accepted for every domain a quantifier can hold, and is `len(d) = 0` around `d` itself -/
theorem emptyTest_eq {d : Expr} (hd : sub d.ty T.COMPOUND) (hnd : d.ty ≠ 0) :
    emptyTest d = .ok (.bin T.BOOL "=" (.call T.NUMBER "len" (.cons d .nil)) (.lit T.NUMBER "0" (.int 0))) := by
  unfold emptyTest
  simp only [lenCall_ok hd hnd, bind, Except.bind]
  have hb : findBin "=" = some ⟨"=", T.PRIMITIVE, T.PRIMITIVE, T.BOOL, true, true, false⟩ := by decide
  exact mkBin_stable hb (by simp only [Expr.ty]; decide) (by simp only [Expr.ty]; decide) (fun _ => rfl) (by simp only [Expr.ty]; decide) (by simp only [Expr.ty]; decide)

theorem emptyTest_ok {d : Expr} (hd : sub d.ty T.COMPOUND) (hnd : d.ty ≠ 0) : ∃ e, emptyTest d = .ok e ∧ e.ty = T.BOOL :=
  ⟨_, emptyTest_eq hd hnd, rfl⟩

/-- an accepted quantifier `q x in d: body` (children already inside COMPOUND / BOOL) -/
structure QCtx (q : Quant) (x : String) (d body : Expr) : Prop where
  hd : sub d.ty T.COMPOUND
  hb : sub body.ty T.BOOL
  hnd : d.ty ≠ 0
  hnb : body.ty ≠ 0
  acc : ∃ e, mkQuant q x d body = .ok e

/-- `a` is a boolean formula made of nodes of `body` and of new nodes that are neither variables nor quantifiers -/
structure PartOf (x : String) (body a : Expr) : Prop where
  ty : a.ty = T.BOOL
  nodes : ∀ n ∈ a.preorder, n ∈ body.preorder ∨ (bindsName x n = false ∧ isVarNamed x n = false)

theorem mem_un {t : DataType} {op : String} {a n : Expr} (h : n ∈ a.preorder) : n ∈ (Expr.un t op a).preorder :=
  List.mem_cons_of_mem _ h
theorem mem_bin_left {t : DataType} {op : String} {a b n : Expr} (h : n ∈ a.preorder) : n ∈ (Expr.bin t op a b).preorder :=
  List.mem_cons_of_mem _ (List.mem_append_left _ h)
theorem mem_bin_right {t : DataType} {op : String} {a b n : Expr} (h : n ∈ b.preorder) : n ∈ (Expr.bin t op a b).preorder :=
  List.mem_cons_of_mem _ (List.mem_append_right _ h)
theorem mem_quant_dom {t : DataType} {q : Quant} {x : String} {d b n : Expr} (h : n ∈ d.preorder) : n ∈ (Expr.quant t q x d b).preorder :=
  List.mem_cons_of_mem _ (List.mem_append_left _ h)
theorem mem_quant_body {t : DataType} {q : Quant} {x : String} {d b n : Expr} (h : n ∈ b.preorder) : n ∈ (Expr.quant t q x d b).preorder :=
  List.mem_cons_of_mem _ (List.mem_append_right _ h)

theorem PartOf.refl {x : String} {body : Expr} (h : body.ty = T.BOOL) : PartOf x body body := ⟨h, fun _ hn => Or.inl hn⟩

/-- the operands of a well-typed conjunction / disjunction / implication are exactly boolean -/
theorem WT_logic_operands {t : DataType} {op : String} {a b : Expr} (h : WT (.bin t op a b)) (hop : isLogic op = true) :
    a.ty = T.BOOL ∧ b.ty = T.BOOL ∧ t = T.BOOL := by
  obtain ⟨ht, ha, hb⟩ := logic_tys hop h
  exact ⟨ha.ty, hb.ty, ht⟩

theorem WT_not_operand {t : DataType} {op : String} {a : Expr} (h : WT (.un t op a)) (hop : op = "not") : a.ty = T.BOOL ∧ t = T.BOOL := by
  subst hop
  have ht : t = T.BOOL := not_ty h
  exact ⟨(un_tys h).ty.trans ht, ht⟩

/-- the negation of a part is a part -/
theorem PartOf.not {x : String} {body a : Expr} (pa : PartOf x body a) : PartOf x body (.un T.BOOL Gen.NOT_OPERATOR a) := by
  refine ⟨rfl, ?_⟩
  intro n hn
  rcases List.mem_cons.1 hn with rfl | hn
  · exact Or.inr ⟨rfl, rfl⟩
  · exact pa.nodes n hn

theorem QCtx.of_WT {t : DataType} {q : Quant} {x : String} {d body : Expr} (hw : WT (.quant t q x d body))
    (hr : mkQuant q x d body = .ok (.quant t q x d body)) : QCtx q x d body :=
  ⟨hw.2.2.2.1, hw.2.2.2.2.1, WT_ne _ hw.2.1, WT_ne _ hw.2.2.1, _, hr⟩

/-- every node of `len(d) = 0 or a` is a node of `d`, a node of `a`, or a new node that is neither a variable nor a quantifier -/
theorem emptyOr_nodes {d a n : Expr}
    (hn : n ∈ (Expr.bin T.BOOL Gen.OR_OPERATOR (.bin T.BOOL "=" (.call T.NUMBER "len" (.cons d .nil)) (.lit T.NUMBER "0" (.int 0))) a).preorder) :
    n ∈ d.preorder ∨ n ∈ a.preorder ∨ ((∀ y, isVarNamed y n = false) ∧ ∀ y, bindsName y n = false) := by
  change n ∈ _ :: ((_ :: ((_ :: (d.preorder ++ [])) ++ [_])) ++ a.preorder) at hn
  simp only [List.mem_cons, List.mem_append, List.append_nil, List.not_mem_nil, or_false] at hn
  rcases hn with rfl | (rfl | (rfl | hn) | rfl) | hn
  · exact .inr (.inr ⟨fun _ => rfl, fun _ => rfl⟩)
  · exact .inr (.inr ⟨fun _ => rfl, fun _ => rfl⟩)
  · exact .inr (.inr ⟨fun _ => rfl, fun _ => rfl⟩)
  · exact .inl hn
  · exact .inr (.inr ⟨fun _ => rfl, fun _ => rfl⟩)
  · exact .inr (.inl hn)

/-- what `splitHalf` returns -/
theorem splitHalf_total {q : Quant} {x : String} {d body a : Expr} (c : QCtx q x d body) (pa : PartOf x body a)
    (hrd : Rebuildable d) (hra : Rebuildable a) :
    ∃ e, splitHalf x d a = .ok e ∧ e.ty = T.BOOL ∧ Rebuildable e ∧
      ∀ n ∈ e.preorder, n ∈ d.preorder ∨ n ∈ a.preorder ∨ ((∀ y, isVarNamed y n = false) ∧ ∀ y, bindsName y n = true → y = x) := by
  have hsa : sub a.ty T.BOOL := by rw [pa.ty]; decide
  have hna : a.ty ≠ 0 := by rw [pa.ty]; decide
  obtain ⟨e0, he0⟩ := c.acc
  unfold splitHalf
  by_cases hx : a.containsRef x = true
  · rw [if_pos hx]
    have hfa := mkForall_part c.hd c.hb c.hnd c.hnb he0 hsa hna pa.nodes hx
    refine ⟨_, hfa, rfl, ?_, ?_⟩
    · exact ⟨hfa, hrd, hra⟩
    · intro n hn
      change n ∈ _ :: (d.preorder ++ a.preorder) at hn
      simp only [List.mem_cons, List.mem_append] at hn
      rcases hn with rfl | hn | hn
      · exact Or.inr (Or.inr ⟨fun _ => rfl, fun y hy => by simpa [bindsName] using hy⟩)
      · exact Or.inl hn
      · exact Or.inr (Or.inl hn)
  · rw [if_neg hx]
    simp only [emptyTest_eq c.hd c.hnd, bind, Except.bind]
    refine ⟨_, mkOr_accepts rfl pa.ty, rfl, ?_, ?_⟩
    · exact ⟨⟨⟨lenCall_ok c.hd c.hnd, hrd, trivial⟩, trivial⟩, hra⟩
    · exact fun n hn => (emptyOr_nodes hn).imp_right (.imp_right fun h => ⟨h.1, fun y hy => nomatch (h.2 y).symm.trans hy⟩)

theorem trueLit_rebuildable : Rebuildable trueLit := trivial

theorem refAnd_good {alias : String} {op a b : Expr} (h : (a.containsRef alias || b.containsRef alias) = true)
    (ho : Rebuildable op) (ha : Rebuildable a) (hb : Rebuildable b) :
    ∃ r, refAnd alias op a b = .ok r ∧ Rebuildable r.1 ∧ Rebuildable r.2 := by
  unfold refAnd
  cases hra : a.containsRef alias <;> cases hrb : b.containsRef alias
  · simp [hra, hrb] at h
  · exact ⟨_, rfl, ha, hb⟩
  · exact ⟨_, rfl, hb, ha⟩
  · exact ⟨_, rfl, trueLit_rebuildable, ho⟩

theorem refQuantAnd_good {alias : String} {q : Quant} {x : String} {quant d body a b : Expr} (c : QCtx q x d body)
    (pa : PartOf x body a) (pb : PartOf x body b) (href : (a.containsRef alias || b.containsRef alias) = true)
    (hrq : Rebuildable quant) (hrd : Rebuildable d) (hra : Rebuildable a) (hrb : Rebuildable b) :
    ∃ r, refQuantAnd alias x quant d a b = .ok r ∧ Rebuildable r.1 ∧ Rebuildable r.2 := by
  obtain ⟨ea, hea, _, hrea, _⟩ := splitHalf_total c pa hrd hra
  obtain ⟨eb, heb, _, hreb, _⟩ := splitHalf_total c pb hrd hrb
  unfold refQuantAnd
  rw [hea, heb]
  cases ha : a.containsRef alias <;> cases hb : b.containsRef alias
  · simp [ha, hb] at href
  · exact ⟨_, rfl, hrea, hreb⟩
  · exact ⟨_, rfl, hreb, hrea⟩
  · exact ⟨_, rfl, trueLit_rebuildable, hrq⟩

/-- **`_split_ref_quantifier` never fails** on an accepted, well-typed quantifier that mentions the alias -/
theorem refQuant_good {alias : String} {t : DataType} {q : Quant} {x : String} {d body : Expr} (hw : WT (.quant t q x d body))
    (hrb : Rebuildable (.quant t q x d body)) (href : (Expr.quant t q x d body).containsRef alias = true) :
    ∃ r, refQuant alias (.quant t q x d body) = .ok r ∧ Rebuildable r.1 ∧ Rebuildable r.2 := by
  have c := QCtx.of_WT hw hrb.1
  have hwb : WT body := hw.2.2.1
  have self : ∃ r, (.ok (trueLit, .quant t q x d body) : M (Expr × Expr)) = .ok r ∧ Rebuildable r.1 ∧ Rebuildable r.2 :=
    ⟨_, rfl, trueLit_rebuildable, hrb⟩
  simp only [Expr.containsRef, Bool.or_eq_true] at href
  change ∃ r, ite (d.containsRef alias = true) _ _ = Except.ok r ∧ _
  by_cases hdr : d.containsRef alias = true
  · rw [if_pos hdr]
    exact self
  · rw [if_neg hdr]
    have hbr : body.containsRef alias = true := href.resolve_left hdr
    simp only [hbr, Bool.not_true, Bool.false_eq_true, if_false]
    cases q with
    | some => exact self
    | all =>
      simp only
      split
      · rename_i t1 op t2 op2 a b
        split
        · rename_i hops
          simp only [Bool.and_eq_true, beq_iff_eq] at hops
          obtain ⟨hta, htb, _⟩ := WT_logic_operands (WT_un_inv hwb) (by rw [hops.2]; decide)
          have pa : PartOf x (.un t1 op (.bin t2 op2 a b)) a :=
            ⟨hta, fun n hn => Or.inl (mem_un (mem_bin_left hn))⟩
          have pb : PartOf x (.un t1 op (.bin t2 op2 a b)) b :=
            ⟨htb, fun n hn => Or.inl (mem_un (mem_bin_right hn))⟩
          simp only [mkNot_accepts hta, mkNot_accepts htb, bind, Except.bind, mkAnd_accepts (a := .un T.BOOL Gen.NOT_OPERATOR a) (b := .un T.BOOL Gen.NOT_OPERATOR b) rfl rfl]
          exact refQuantAnd_good c pa.not pb.not (by simpa [Expr.containsRef] using hbr) hrb hrb.2.1
            hrb.2.2.1 hrb.2.2.2
        · exact self
      · rename_i t1 op a b
        split
        · rename_i hop
          obtain ⟨hta, htb, _⟩ := WT_logic_operands hwb (by rw [eq_of_beq hop]; decide)
          have pa : PartOf x (.bin t1 op a b) a :=
            ⟨hta, fun n hn => Or.inl (mem_bin_left hn)⟩
          have pb : PartOf x (.bin t1 op a b) b :=
            ⟨htb, fun n hn => Or.inl (mem_bin_right hn)⟩
          exact refQuantAnd_good c pa pb (by simpa [Expr.containsRef] using hbr) hrb hrb.2.1 hrb.2.2.1 hrb.2.2.2
        · exact self
      · exact self

theorem refQuant_rebuildable {alias : String} {t : DataType} {q : Quant} {x : String} {d body : Expr} {r : Expr × Expr}
    (hw : WT (.quant t q x d body)) (hrb : Rebuildable (.quant t q x d body))
    (h : refQuant alias (.quant t q x d body) = .ok r) : Rebuildable r.1 ∧ Rebuildable r.2 := by
  cases href : (Expr.quant t q x d body).containsRef alias with
  | true =>
    obtain ⟨r', h', hr⟩ := refQuant_good hw hrb href
    rw [h] at h'
    cases h'
    exact hr
  | false =>
    simp only [Expr.containsRef, Bool.or_eq_false_iff] at href
    simp [refQuant, href.1, href.2] at h

/-- in the operator table only `not` can yield a boolean -/
theorem unOps_bool_is_not : ∀ d ∈ Gen.unOps, d.res &&& T.BOOL ≠ 0 → d.token = "not" := by decide

/-- a well-typed unary node that can be boolean is a negation -/
theorem WT_un_bool {t : DataType} {op : String} {a : Expr} (h : WT (.un t op a)) (hb : t &&& T.BOOL ≠ 0) : op = "not" := by
  obtain ⟨d, hd, ht, _, _⟩ := h
  have hm := List.mem_of_find?_eq_some hd
  unfold findUn at hd
  have htok := List.find?_some hd
  rw [← eq_of_beq htok]
  exact unOps_bool_is_not d hm (by rw [← ht]; exact hb)

/-- the only failure left is running out of fuel (which `refactorExpr_fuel_ok` excludes) -/
def OkOrFuel {α : Type} (r : M α) : Prop := ∀ err, r = .error err → err = fuelErr

theorem OkOrFuel.of_ok {α : Type} {r : M α} (h : ∃ v, r = .ok v) : OkOrFuel r := by
  obtain ⟨v, rfl⟩ := h; intro err he; cases he

/-- an accepted quantifier's condition mentions its variable -/
theorem quant_uses_var {t : DataType} {q : Quant} {x : String} {d body : Expr} (hw : WT (.quant t q x d body))
    (hr : mkQuant q x d body = .ok (.quant t q x d body)) : body.containsRef x = true := by
  obtain ⟨_, _, he, _, _, huse⟩ := mkQuant_hygiene hr
  cases he
  rw [Expr.containsRef_iff]
  exact huse

theorem forall_not_of_exists {t : DataType} {x : String} {d p : Expr} (hw : WT (.quant t .some x d p))
    (hrb : Rebuildable (.quant t .some x d p)) :
    mkNot p = .ok (.un T.BOOL Gen.NOT_OPERATOR p) ∧ (Expr.un T.BOOL Gen.NOT_OPERATOR p).containsRef x = true ∧
    mkForall x d (.un T.BOOL Gen.NOT_OPERATOR p) = .ok (.quant T.BOOL .all x d (.un T.BOOL Gen.NOT_OPERATOR p)) ∧
    WT (.quant T.BOOL .all x d (.un T.BOOL Gen.NOT_OPERATOR p)) ∧ Rebuildable (.quant T.BOOL .all x d (.un T.BOOL Gen.NOT_OPERATOR p)) := by
  have c := QCtx.of_WT hw hrb.1
  have htp : p.ty = T.BOOL := bool_of_sub c.hb c.hnb
  have hnpx : (Expr.un T.BOOL Gen.NOT_OPERATOR p).containsRef x = true := by
    simpa [Expr.containsRef] using quant_uses_var hw hrb.1
  have hfa := mkForall_part c.hd c.hb c.hnd c.hnb hrb.1 (by simp only [Expr.ty]; decide) (by simp only [Expr.ty]; decide)
    (PartOf.refl htp).not.nodes hnpx
  refine ⟨mkNot_accepts htp, hnpx, hfa, mkForall_WT hfa (WT_quant_inv hw).1 (mkNot_WT (mkNot_accepts htp) (WT_quant_inv hw).2), ?_⟩
  exact ⟨hfa, hrb.2.1, hrb.2.2⟩

/-- under `pre` the call can only run out of fuel; under `post` both halves of a result are rebuildable -/
structure RefOut (pre post : Prop) (res : M (Expr × Expr)) : Prop where
  okf : pre → OkOrFuel res
  out : post → ∀ r, res = .ok r → Rebuildable r.1 ∧ Rebuildable r.2

theorem RefOut.of_good {pre post : Prop} {res : M (Expr × Expr)} (h : ∃ r, res = .ok r ∧ Rebuildable r.1 ∧ Rebuildable r.2) :
    RefOut pre post res := by
  obtain ⟨r, rfl, hr⟩ := h
  exact ⟨fun _ => .of_ok ⟨r, rfl⟩, fun _ r' hr' => by cases hr'; exact hr⟩

theorem RefOut.ok {pre post : Prop} {a b : Expr} (ha : post → Rebuildable a) (hb : post → Rebuildable b) : RefOut pre post (.ok (a, b)) :=
  ⟨fun _ => .of_ok ⟨_, rfl⟩, fun hp r hr => by cases hr; exact ⟨ha hp, hb hp⟩⟩

theorem RefOut.fail {pre post : Prop} {res : M (Expr × Expr)} {err : Err} (h : res = .error err) (hp : pre → err = fuelErr) :
    RefOut pre post res := by
  subst h
  exact ⟨fun p err' he => by cases he; exact hp p, fun _ r hr => by cases hr⟩

theorem RefOut.mono {pre post pre' post' : Prop} {res : M (Expr × Expr)} (h : RefOut pre post res) (hp : pre' → pre) (hq : post' → post) :
    RefOut pre' post' res :=
  ⟨fun p => h.okf (hp p), fun q => h.out (hq q)⟩

theorem RefOut.ite {pre post c : Prop} [Decidable c] {x y : M (Expr × Expr)} (ht : c → RefOut pre post x) (he : ¬c → RefOut pre post y) :
    RefOut pre post (if c then x else y) := by
  split
  · exact ht ‹c›
  · exact he ‹¬c›

/-- totality and rebuildable halves at once, by induction on the fuel -/
theorem refactor_out (alias : String) : ∀ f,
    (∀ e, WT e → Rebuildable e → RefOut True True (refExpr alias f e)) ∧
    (∀ neg e, WT e → Rebuildable e →
      RefOut (e.ty = T.BOOL ∧ e.containsRef alias = true) (Rebuildable neg) (refNeg alias f neg e)) := by
  intro f
  induction f with
  | zero =>
    exact ⟨fun e _ _ => .fail rfl fun _ => rfl, fun neg e _ _ => .fail rfl fun _ => rfl⟩
  | succ f ih =>
    obtain ⟨ihE, ihN⟩ := ih
    refine ⟨?_, ?_⟩
    · intro e hw hrb
      -- `refExpr` unfolds by definition; `simp only [refExpr]` and `split` are far slower to check
      refine .ite (fun _ => .ok (fun _ => hrb) (fun _ => trueLit_rebuildable)) fun href => ?_
      have href' : e.containsRef alias = true := by simpa using href
      refine .ite (fun _ => .ok (fun _ => trueLit_rebuildable) (fun _ => hrb)) fun hbool => ?_
      refine .ite (fun _ => .ok (fun _ => trueLit_rebuildable) (fun _ => hrb)) fun hkind => ?_
      cases e with
      | quant t q x d b => exact .of_good (refQuant_good hw hrb href')
      | un t op a =>
        have hop := WT_un_bool hw (by simpa [Expr.ty] using hbool)
        subst hop
        exact (ihN _ _ (WT_un_inv hw) hrb).mono
          (fun _ => ⟨(WT_not_operand hw rfl).1, by simpa [Expr.containsRef] using href'⟩) (fun _ => hrb)
      | bin t op a b =>
        exact .ite (fun _ => .of_good (refAnd_good (by simpa [Expr.containsRef] using href') hrb hrb.1 hrb.2))
          fun _ => .ok (fun _ => trueLit_rebuildable) (fun _ => hrb)
      | lit _ _ _ | this _ | var _ _ | set _ _ | range _ _ _ _ _ | call _ _ _ | field _ _ _ | index _ _ _ =>
        exact absurd rfl hkind
    · intro neg e hw hrb
      refine .ite (fun hass => .fail rfl fun hp => ?_) fun hass => ?_
      · simp [hp.1, hp.2] at hass
        exact absurd hass (by decide)
      have href : e.containsRef alias = true := by
        cases hc : e.containsRef alias
        · simp [hc] at hass
        · rfl
      refine .ite (fun _ => .ok (fun _ => trueLit_rebuildable) id) fun hkind => ?_
      cases e with
      | quant t q x d p =>
        cases q with
        | all => exact .ok (fun _ => trueLit_rebuildable) id
        | some =>
          obtain ⟨hnot, hnpx, hfa, hwQ, hrQ⟩ := forall_not_of_exists hw hrb
          change RefOut _ _ (mkNot p >>= _)
          simp only [hnot, bind, Except.bind, hnpx, if_true, hfa]
          exact .of_good (refQuant_good hwQ hrQ (by simpa [Expr.containsRef] using href))
      | un t op a =>
        exact .ite (fun _ => (ihE _ (WT_un_inv hw) hrb).mono (fun _ => trivial) (fun _ => trivial))
          fun _ => .ok (fun _ => trueLit_rebuildable) id
      | bin t op a b =>
        have href' : (a.containsRef alias || b.containsRef alias) = true := by simpa [Expr.containsRef] using href
        refine .ite (fun hop => ?_) fun _ => ?_
        · obtain ⟨hta, htb, _⟩ := WT_logic_operands hw (by rw [eq_of_beq hop]; decide)
          simp only [mkNot_accepts htb, bind, Except.bind, mkAnd_accepts (a := a) (b := .un T.BOOL Gen.NOT_OPERATOR b) hta rfl]
          exact .of_good (refAnd_good (by simpa [Expr.containsRef] using href') hrb hrb.1 hrb.2)
        · refine .ite (fun hop => ?_) fun _ => ?_
          · obtain ⟨hta, htb, _⟩ := WT_logic_operands hw (by rw [eq_of_beq hop]; decide)
            simp only [mkNot_accepts hta, mkNot_accepts htb, bind, Except.bind,
              mkAnd_accepts (a := .un T.BOOL Gen.NOT_OPERATOR a) (b := .un T.BOOL Gen.NOT_OPERATOR b) rfl rfl]
            exact .of_good (refAnd_good (by simpa [Expr.containsRef] using href') hrb hrb.1 hrb.2)
          · exact .ok (fun _ => trueLit_rebuildable) id
      | lit _ _ _ | this _ | var _ _ | set _ _ | range _ _ _ _ _ | call _ _ _ | field _ _ _ | index _ _ _ =>
        exact absurd rfl hkind

theorem refactor_total (alias : String) : ∀ f,
    (∀ e, WT e → Rebuildable e → OkOrFuel (refExpr alias f e)) ∧
    (∀ neg e, WT e → Rebuildable e → e.ty = T.BOOL → e.containsRef alias = true → OkOrFuel (refNeg alias f neg e)) :=
  fun f => ⟨fun e hw hrb => ((refactor_out alias f).1 e hw hrb).okf trivial,
    fun neg e hw hrb hty href => ((refactor_out alias f).2 neg e hw hrb).okf ⟨hty, href⟩⟩

theorem refactor_rebuildable (alias : String) : ∀ f,
    (∀ e r, WT e → Rebuildable e → refExpr alias f e = .ok r → Rebuildable r.1 ∧ Rebuildable r.2) ∧
    (∀ neg e r, WT e → Rebuildable e → Rebuildable neg → refNeg alias f neg e = .ok r → Rebuildable r.1 ∧ Rebuildable r.2) :=
  fun f => ⟨fun e r hw hrb => ((refactor_out alias f).1 e hw hrb).out trivial r,
    fun neg e r hw hrb hrn => ((refactor_out alias f).2 neg e hw hrb).out hrn r⟩

/-- **C14, `refactor_reference` is total (expressions)**: on a well-typed tree whose quantifier and call nodes pass their
    constructors, for every alias, the rewrite returns a pair — no constructor call inside it fails, no assertion fires, the fuel
    suffices -/
theorem refactorExpr_total (e : Expr) (alias : String) (hw : WT e) (hrb : Rebuildable e) : ∃ r, refactorExpr e alias = .ok r := by
  cases h : refactorExpr e alias with
  | ok r => exact ⟨r, rfl⟩
  | error err =>
    have := (refactor_total alias _).1 e hw hrb err h
    subst this
    exact absurd h (refactorExpr_fuel_ok e alias)

/-- ... in particular on everything the parser builds -/
theorem refactorExpr_total_parsed (r : Raw) (e : Expr) (alias : String) (h : build r = .ok e) : ∃ p, refactorExpr e alias = .ok p :=
  refactorExpr_total e alias (build_WT r e h) (build_rebuildable r e h)

/-- the hypotheses are met and the interesting branch is taken: `forall i in xs: (@i > @A.x and b)` splits for alias `A` -/
example : ∃ e p, build (.quant .all "i" (.field .this "xs") (.bin "and" (.bin ">" (.var "i") (.field (.var "A") "x")) (.field .this "b"))) = .ok e ∧
    refactorExpr e "A" = .ok p ∧ p.1 ≠ trueLit := by
  refine ⟨_, _, by rfl, by rfl, by decide⟩

end Hpl
