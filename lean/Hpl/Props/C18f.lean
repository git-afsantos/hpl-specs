import Hpl.Props.C18e
/-!
# C18 — a text that parses closes the braces it opens

`Balanced ts`: scanning past `ts` leaves the brace depth where it was.  Everything the grammar derives is balanced
(`renders_balanced`), hence every predicate, and so is what each property-level parser function consumes.  This discharges the
side condition of `parseSpecification_lines`: **`parseSpecification_of_texts`**.
-/
namespace Hpl

def Balanced (ts : List Tok) : Prop := ∀ d, tokDepth ts d = d

theorem Balanced.nil : Balanced [] := fun _ => rfl

theorem Balanced.append {a b : List Tok} (ha : Balanced a) (hb : Balanced b) : Balanced (a ++ b) := by
  intro d; rw [tokDepth_append, ha, hb]

/-- a token that is not a brace -/
def NotBrace (t : Tok) : Prop := isSym t "{" = false ∧ isSym t "}" = false

theorem Balanced.single {t : Tok} (h : NotBrace t) : Balanced [t] := by
  intro d; simp [tokDepth, tokStep, h.1, h.2]

theorem Balanced.cons {t : Tok} {ts : List Tok} (h : NotBrace t) (hts : Balanced ts) : Balanced (t :: ts) :=
  (Balanced.single h).append hts

theorem Balanced.snoc {t : Tok} {ts : List Tok} (hts : Balanced ts) (h : NotBrace t) : Balanced (ts ++ [t]) :=
  hts.append (Balanced.single h)

theorem Balanced.braces {o c : Tok} {mid : List Tok} (ho : isSym o "{" = true) (hc : isSym c "}" = true) (hm : Balanced mid) :
    Balanced (o :: (mid ++ [c])) := by
  intro d
  have hco : isSym c "{" = false := isSym_other hc (by decide)
  simp only [tokDepth, List.foldl_cons, List.foldl_append, List.foldl_nil, tokStep, ho, if_true]
  have := hm (d + 1)
  simp only [tokDepth] at this
  rw [this]
  simp [hco, hc]

theorem notBrace_kw {t : Tok} {w : String} (h : isKw t w = true) : NotBrace t := ⟨isSym_of_kw h, isSym_of_kw h⟩

theorem notBrace_sym {t : Tok} {w : String} (h : isSym t w = true) (h1 : w ≠ "{" := by decide) (h2 : w ≠ "}" := by decide) :
    NotBrace t :=
  ⟨isSym_other h h1, isSym_other h h2⟩

theorem notBrace_kind {t : Tok} {k : TokKind} (hk : t.kind = k) (h : k ≠ .sym := by decide) : NotBrace t :=
  ⟨notSym_of_kind (hk ▸ h) _, notSym_of_kind (hk ▸ h) _⟩

theorem notBrace_or {t : Tok} {a b : Bool} (h : (a || b) = true) (ha : a = true → NotBrace t) (hb : b = true → NotBrace t) :
    NotBrace t :=
  (Bool.or_eq_true_iff.1 h).elim ha hb

theorem notBrace_opTest {k : Nat} {t : Tok} (h : opTest k t = true) : NotBrace t := by
  unfold opTest at h
  split at h
  · exact notBrace_or h notBrace_kw notBrace_kw
  · exact notBrace_kw h
  · exact notBrace_kw h
  · exact notBrace_or h (notBrace_sym ·) (notBrace_sym ·)
  · exact notBrace_or h (notBrace_sym ·) (notBrace_sym ·)
  · exact notBrace_sym h
  · cases h

theorem notBrace_relTest {t : Tok} (h : relTest t = true) : NotBrace t := by
  refine notBrace_or h (fun h => ?_) notBrace_kw
  obtain ⟨hk, hm⟩ := Bool.and_eq_true_iff.1 h
  have all : ∀ w ∈ relOps, w ≠ "{" ∧ w ≠ "}" := by decide
  obtain ⟨h1, h2⟩ := all _ (List.contains_iff_mem.1 hm)
  exact notBrace_sym (w := t.text) (Bool.and_eq_true_iff.2 ⟨hk, beq_self_eq_true _⟩) h1 h2

/-- **whatever the grammar derives closes the braces it opens** -/
theorem renders_balanced {k : Nat} {e : Raw} {ts : List Tok} (h : Renders k e ts) : Balanced ts := by
  induction h with
  | up _ _ _ ih => exact ih
  | binL t _ ht _ _ iha ihb => exact iha.append (Balanced.cons (notBrace_opTest ht) ihb)
  | rel t ht _ _ iha ihb => exact iha.append (Balanced.cons (notBrace_relTest ht) ihb)
  | not t ht _ iha => exact Balanced.cons (notBrace_kw ht) iha
  | quant t v kin c ht hvk _ hkin hc _ _ ihd ihb =>
    exact Balanced.cons (notBrace_or ht notBrace_kw notBrace_kw) (Balanced.cons (notBrace_kind hvk) (Balanced.cons (notBrace_kw hkin)
      (ihd.append (Balanced.cons (notBrace_sym hc) ihb))))
  | neg t ht _ iha => exact Balanced.cons (notBrace_sym ht) iha
  | paren o c ho hc _ ih =>
    exact Balanced.cons (notBrace_sym ho) (ih.snoc (notBrace_sym hc))
  | str t hk => exact Balanced.single (notBrace_kind hk)
  | num t v hk _ => exact Balanced.single (notBrace_kind hk)
  | true_ t hk _ => exact Balanced.single (notBrace_kind hk)
  | false_ t hk _ => exact Balanced.single (notBrace_kind hk)
  | const t v hk _ _ => exact Balanced.single (notBrace_kind hk)
  | call f o c hk _ ho hc _ iha =>
    exact Balanced.cons (notBrace_kind hk) (Balanced.cons (notBrace_sym ho)
      (iha.snoc (notBrace_sym hc)))
  | range o kto c ho hto hc _ _ ihl ihh =>
    exact Balanced.cons (notBrace_or ho (notBrace_sym ·) (notBrace_sym ·)) (ihl.append (Balanced.cons (notBrace_kw hto)
      (ihh.snoc (notBrace_or hc (notBrace_sym ·) (notBrace_sym ·)))))
  | setOne _ ih => exact ih
  | setMore c hc _ _ ihs ihe => exact ihs.append (Balanced.cons (notBrace_sym hc) ihe)
  | set o c ho hc _ ihs => exact Balanced.braces ho hc ihs
  | var t hk => exact Balanced.single (notBrace_kind hk)
  | own t hk _ => exact Balanced.single (notBrace_kind hk)
  | field d n hd hk _ _ ih =>
    exact ih.append (Balanced.cons (notBrace_sym hd) (Balanced.single (notBrace_kind hk)))
  | index o c ho hc _ _ iha ihi =>
    exact iha.append (Balanced.cons (notBrace_sym ho) (ihi.snoc (notBrace_sym hc)))
  | ref _ ih => exact ih

theorem notBrace_wordS {t : Tok} {s : String} (h : isWordS t s = true) : NotBrace t := by
  simp only [isWordS, Bool.and_eq_true, beq_iff_eq] at h
  exact notBrace_kind h.1

theorem rpred_balanced {pred : Option Raw} {ts : List Tok} (h : RPred pred ts) : Balanced ts := by
  cases h with
  | none => exact Balanced.nil
  | some o c ho hc hr => exact Balanced.braces ho hc (renders_balanced hr)

theorem rsimple_balanced {s : RawSimple} {ts : List Tok} (h : RSimple s ts) : Balanced ts := by
  cases h with
  | mk n hk _ hal hpr =>
    refine Balanced.cons (notBrace_kind hk) (Balanced.append ?_ (rpred_balanced hpr))
    cases hal with
    | none => exact Balanced.nil
    | some a v ha hvk _ => exact Balanced.cons (notBrace_kw ha) (Balanced.single (notBrace_kind hvk))

theorem ralts_balanced {alts : List RawSimple} {ts : List Tok} (h : RAlts alts ts) : Balanced ts := by
  induction h with
  | last hs => exact rsimple_balanced hs
  | cons k hs hk _ ih => exact (rsimple_balanced hs).append (Balanced.cons (notBrace_kw hk) ih)

theorem revent_balanced {e : RawEvent} {ts : List Tok} (h : REvent e ts) : Balanced ts := by
  cases h with
  | simple hs => exact rsimple_balanced hs
  | disj o c ho hc _ halts =>
    exact Balanced.cons (notBrace_sym ho) ((ralts_balanced halts).snoc (notBrace_sym hc))

theorem rtime_balanced {tb : Option (Rat × TimeUnit)} {ts : List Tok} (h : RTime tb ts) : Balanced ts := by
  cases h with
  | none => exact Balanced.nil
  | some w n u v unit hw hn _ hu =>
    have hub : NotBrace u := by
      rcases hu with ⟨hu, _⟩ | ⟨hu, _⟩ <;> exact notBrace_wordS hu
    exact Balanced.cons (notBrace_kw hw) (Balanced.cons (notBrace_kind hn) (Balanced.single hub))

theorem rmeta_balanced {items : List (String × String)} {ts : List Tok} (h : RMeta items ts) : Balanced ts := by
  induction h with
  | nil => exact Balanced.nil
  | item hd k c v key hh hc hk _ ih =>
    have hkb : NotBrace k := by
      rcases hk with ⟨h1, _⟩ | ⟨h1, _⟩ | ⟨h1, _⟩ <;> exact notBrace_wordS h1
    have hvb : NotBrace v := by
      rcases hk with ⟨_, h2, _⟩ | ⟨_, h2, _⟩ | ⟨_, h2, _⟩ <;> exact notBrace_kind h2
    exact Balanced.cons (notBrace_sym hh) (Balanced.cons hkb
      (Balanced.cons (notBrace_sym hc) (Balanced.cons hvb ih)))

theorem rscope_balanced {sk : ScopeKind} {a q : Option RawEvent} {ts : List Tok} (h : RScope sk a q ts) : Balanced ts := by
  cases h with
  | global t h1 => exact Balanced.single (notBrace_kw h1)
  | after t h1 he | until_ t h1 he => exact Balanced.cons (notBrace_kw h1) (revent_balanced he)
  | afterUntil t u h1 hu he1 he2 =>
    exact Balanced.cons (notBrace_kw h1) ((revent_balanced he1).append (Balanced.cons (notBrace_kw hu) (revent_balanced he2)))

theorem rpattern_balanced {pk : PatternKind} {beh : RawEvent} {trig : Option RawEvent} {ts : List Tok} (h : RPattern pk beh trig ts) :
    Balanced ts := by
  cases h with
  | existence t h1 hb | absence t h1 hb => exact Balanced.cons (notBrace_kw h1) (revent_balanced hb)
  | response k hk _ h1 h2 | prevention k hk _ h1 h2 | requirement k hk _ h1 h2 =>
    exact (revent_balanced h1).append (Balanced.cons (notBrace_kw hk) (revent_balanced h2))

theorem rproperty_balanced {p : RawProperty} {ts : List Tok} (h : RProperty p ts) : Balanced ts := by
  cases h with
  | mk c hm hs hc hp ht =>
    exact (rmeta_balanced hm).append ((rscope_balanced hs).append (Balanced.cons (notBrace_sym hc)
      ((rpattern_balanced hp).append (rtime_balanced ht))))

/-- what a property-level parser function consumed closes the braces it opens -/
def BalP {α : Type} (p : List Tok → PR (α × List Tok)) : Prop :=
  ∀ ts r rest, p ts = .ok (r, rest) → ∃ pre, ts = pre ++ rest ∧ Balanced pre

theorem pProperty_bal : BalP pProperty := by
  intro ts p rest h
  obtain ⟨pre, hpre, hr⟩ := pProperty_snd h
  exact ⟨pre, hpre, rproperty_balanced hr⟩

/-- **a text that parses as a property closes the braces it opens** -/
theorem property_balanced {ts : List Tok} {p : RawProperty} (h : parsePropertyToks ts = .ok p) : tokDepth ts 0 = 0 := by
  obtain ⟨pre, hpre, hb⟩ := pProperty_bal ts p [] (parsePropertyToks_ok h)
  simp only [List.append_nil] at hpre
  subst hpre
  exact hb 0

/-- **C18 on texts**: property texts each of which `parse_property` reads on its own (scanner and parser), written one per line,
    make a file that `parse_specification` reads as exactly their properties, in order: the result is the list of the members'
    results (or the first member's construction error), and nothing of a member depends on its neighbours. -/
theorem parseSpecification_of_texts (parts : List (String × List Tok × RawProperty)) (hne : parts ≠ [])
    (h : ∀ p ∈ parts, lex p.1 = .ok p.2.1 ∧ parsePropertyToks p.2.1 = .ok p.2.2) :
    parseSpecification (String.ofList (joinLines (parts.map (·.1.toList)))) = (parts.map (·.2.2)).mapM buildProperty ∧
    ∀ p ∈ parts, parseProperty p.1 = buildProperty p.2.2 :=
  parseSpecification_lines parts hne (fun p hp => ⟨(h p hp).1, property_balanced (h p hp).2, (h p hp).2⟩)

end Hpl
