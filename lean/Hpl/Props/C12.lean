import Hpl.Spec.Trace
import Hpl.Props.C11
/-!
# C12 — splitting a pattern over event alternatives preserves trace semantics

Spec: `Hpl/Spec/Trace.lean` (`sat`, two readings of re-activation). Model: `canonical` (tied to the code by C11's stream).
The theorem holds for **all** finite timed traces (no length bound) and for every interpretation `holds` of predicates.
-/
namespace Hpl

section
variable (holds : Pred → TEnv → Msg → Bool)

theorem matchAll_simpleEvents (σ : TEnv) (m : Msg) (e : Event) :
    e.matchAll holds σ m = e.simpleEvents.flatMap (Event.matchAll holds σ m) := by
  induction e with
  | simple t a p => simp [Event.simpleEvents]
  | disj a b iha ihb => simp [Event.simpleEvents, Event.matchAll, iha, ihb, List.flatMap_append]

theorem matchAll_eq_nil_iff (σ : TEnv) (m : Msg) (e : Event) :
    e.matchAll holds σ m = [] ↔ ∀ a ∈ e.simpleEvents, a.matchAll holds σ m = [] := by
  rw [matchAll_simpleEvents]; simp [List.flatMap_eq_nil_iff]

theorem mem_matchAll_iff (σ σ' : TEnv) (m : Msg) (e : Event) :
    σ' ∈ e.matchAll holds σ m ↔ ∃ a ∈ e.simpleEvents, σ' ∈ a.matchAll holds σ m := by
  rw [matchAll_simpleEvents]; simp [List.mem_flatMap]

/-- splitting the split event of a pattern: the pattern holds on a segment iff every alternative's copy does -/
theorem satPattern_alts (σ : TEnv) (t0 : Rat) (seg : List Msg) (p : Pattern) :
    satPattern holds σ t0 seg p ↔ ∀ q ∈ patternAlts p, satPattern holds σ t0 seg q := by
  obtain ⟨kind, b, tg, mn, T⟩ := p
  -- `patternAlts` and `satPattern` unfold by definition once the kind is known (and the trigger, where there may be one)
  cases kind with
  | absence =>
    refine Iff.trans ?_ List.forall_mem_map.symm
    exact ⟨fun h a ha m hm hw => (matchAll_eq_nil_iff holds σ m b).1 (h m hm hw) a ha,
      fun h m hm hw => (matchAll_eq_nil_iff holds σ m b).2 fun a ha => h a ha m hm hw⟩
  | existence => exact List.forall_mem_singleton.symm
  | requirement =>
    refine Iff.trans ?_ List.forall_mem_map.symm
    cases tg with
    | none => exact ⟨fun _ _ _ => trivial, fun _ => trivial⟩
    | some tg =>
      constructor
      · intro h a ha pre m post hs σ' hσ
        exact h pre m post hs σ' ((mem_matchAll_iff holds σ σ' m b).2 ⟨a, ha, hσ⟩)
      · intro h pre m post hs σ' hσ
        obtain ⟨a, ha, hσa⟩ := (mem_matchAll_iff holds σ σ' m b).1 hσ
        exact h a ha pre m post hs σ' hσa
  | response =>
    cases tg with
    | none => exact List.forall_mem_singleton.symm
    | some tg =>
      refine Iff.trans ?_ List.forall_mem_map.symm
      constructor
      · intro h a ha pre m post hs σ' hσ
        exact h pre m post hs σ' ((mem_matchAll_iff holds σ σ' m tg).2 ⟨a, ha, hσ⟩)
      · intro h pre m post hs σ' hσ
        obtain ⟨a, ha, hσa⟩ := (mem_matchAll_iff holds σ σ' m tg).1 hσ
        exact h a ha pre m post hs σ' hσa
  | prevention =>
    refine Iff.trans ?_ List.forall_mem_map.symm
    cases tg with
    | none => exact ⟨fun _ _ _ => trivial, fun _ => trivial⟩
    | some tg =>
      constructor
      · intro h a ha pre m post hs σ' hσ m' hm' hw
        exact (matchAll_eq_nil_iff holds σ' m' b).1 (h pre m post hs σ' hσ m' hm' hw) a ha
      · intro h pre m post hs σ' hσ m' hm' hw
        exact (matchAll_eq_nil_iff holds σ' m' b).2 (fun a ha => h a ha pre m post hs σ' hσ m' hm' hw)

theorem scopeAlts_simple (s : Scope) (h : ∀ a, s.activator = some a → a.isDisj = false) : scopeAlts s = [s] := by
  rw [← canonicalScopes_eq_spec]; exact canonicalScopes_simple s h

/-- the decomposition of the statement preserves meaning, for every trace and both re-activation readings -/
theorem canonicalSpec_sat_iff (re : Bool) (tr : List Msg) (p : Property)
    (h : ∀ a, p.scope.activator = some a → a.isDisj = false) :
    sat holds re tr p ↔ ∀ q ∈ canonicalSpec p, sat holds re tr q := by
  simp only [canonicalSpec, scopeAlts_simple p.scope h, List.flatMap_cons, List.flatMap_nil,
    List.append_nil, List.mem_map, forall_exists_index, and_imp, forall_apply_eq_imp_iff₂, sat]
  constructor
  · intro hs q hq seg hseg
    exact (satPattern_alts holds seg.1 seg.2.1 seg.2.2 p.pattern).1 (hs seg hseg) q hq
  · intro hs seg hseg
    exact (satPattern_alts holds seg.1 seg.2.1 seg.2.2 p.pattern).2 (fun q hq => hs q hq seg hseg)

/-- **C12**: for every property whose activator is not a disjunction, a finite timed trace satisfies the property iff
    it satisfies every property of its canonical form -/
theorem canonical_sat_iff (re : Bool) (tr : List Msg) (p : Property) (qs : List Property)
    (hact : ∀ a, p.scope.activator = some a → a.isDisj = false)
    (htrig : p.pattern.kind.hasTrigger = p.pattern.trigger.isSome)
    (hc : canonical p = .ok qs) :
    sat holds re tr p ↔ ∀ q ∈ qs, sat holds re tr q := by
  rw [canonical_eq_spec p qs htrig hc]
  exact canonicalSpec_sat_iff holds re tr p hact

end

/-! ## the hypothesis and the choice of split position are necessary (each with a concrete trace) -/

def holdsAll : Pred → TEnv → Msg → Bool := fun _ _ _ => true
def evN (n : String) : Event := .simple n none .vtrue
def globalScope : Scope := ⟨.global, none, none⟩

/-- splitting the behaviour of `some (a or b)` would change the meaning: the trace [b] satisfies the disjunction, not `some a` -/
theorem existence_not_splittable :
    sat holdsAll false [⟨0, "b", 0⟩] ⟨globalScope, ⟨.existence, .disj (evN "a") (evN "b"), none, 0, none⟩, []⟩ ∧
    ¬ sat holdsAll false [⟨0, "b", 0⟩] ⟨globalScope, ⟨.existence, evN "a", none, 0, none⟩, []⟩ := by
  simp [sat, segments, satPattern, globalScope, evN, Event.matchAll, within, holdsAll]

/-- splitting the behaviour of `t causes (a or b)` would change the meaning -/
theorem response_behaviour_not_splittable :
    sat holdsAll false [⟨0, "t", 0⟩, ⟨1, "b", 0⟩] ⟨globalScope, ⟨.response, .disj (evN "a") (evN "b"), some (evN "t"), 0, none⟩, []⟩ ∧
    ¬ sat holdsAll false [⟨0, "t", 0⟩, ⟨1, "b", 0⟩] ⟨globalScope, ⟨.response, evN "a", some (evN "t"), 0, none⟩, []⟩ := by
  constructor
  · simp only [sat, segments, globalScope, List.mem_singleton, forall_eq, satPattern]
    intro pre m post hs σ' hσ
    rcases pre with _ | ⟨x, pre⟩
    · simp at hs; obtain ⟨rfl, rfl⟩ := hs
      exact ⟨⟨1, "b", 0⟩, by simp, trivial, by simp [evN, Event.matchAll, holdsAll]⟩
    · rcases pre with _ | ⟨y, pre⟩
      · simp at hs; obtain ⟨_, rfl, _⟩ := hs
        simp [evN, Event.matchAll, holdsAll] at hσ
      · simp at hs
  · simp only [sat, segments, globalScope, List.mem_singleton, forall_eq, satPattern]
    intro h
    obtain ⟨m', hm', _, hne⟩ := h [] ⟨0, "t", 0⟩ [⟨1, "b", 0⟩] rfl [] (by simp [evN, Event.matchAll, holdsAll])
    simp at hm'; subst hm'
    simp [evN, Event.matchAll, holdsAll] at hne

/-- non-vacuity of the theorem's hypotheses: a response property with a disjunctive trigger and a simple activator -/
def exC12 : Property := ⟨⟨.after, some (evN "s"), none⟩, ⟨.response, evN "r", some (.disj (evN "a") (evN "b")), 0, some 5⟩, []⟩
example : canonical exC12 = .ok (canonicalSpec exC12) ∧ (canonicalSpec exC12).length = 2 ∧
    (∀ a, exC12.scope.activator = some a → a.isDisj = false) := by
  refine ⟨by rfl, by rfl, ?_⟩
  intro a ha; simp [exC12] at ha; subst ha; rfl

end Hpl
