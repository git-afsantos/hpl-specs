import Hpl.Props.C06n
import Hpl.Props.C06j
import Hpl.Props.C18d
/-!
# C18 / C01 — the scanner is local: what follows a white-space character does not change how the text before it is scanned

`scan_append`: if a text is scanned successfully, then followed by anything that begins with a white-space character it is scanned to
the same tokens, after which the scanner continues on the rest (brace depth carried over, no token glued to the previous one).
-/
namespace Hpl

/-- the rest of the input is empty or begins with a white-space character -/
def WsStart (rest : List Char) : Prop := ∀ x, rest.head? = some x → isWs x = true

theorem WsStart.all {rest : List Char} (h : WsStart rest) {Q : Char → Prop} (hQ : ∀ x ∈ [' ', '\t', '\x0c', '\r', '\n'], Q x) :
    ∀ x, rest.head? = some x → Q x := fun x hx => hQ x (by
  have := h x hx
  simp only [isWs, Bool.or_eq_true, beq_iff_eq] at this
  rcases this with (((h | h) | h) | h) | h <;> simp [h])

theorem WsStart.notId {rest : List Char} (h : WsStart rest) : ∀ x, rest.head? = some x → isIdChar x = false := h.all (by decide)

theorem WsStart.numStop {rest : List Char} (h : WsStart rest) : NumStop rest := h.all (by decide)

theorem WsStart.nameEnd {rest : List Char} (h : WsStart rest) : NameEnd rest := h.all (by decide)

theorem takeWhileC_len (p : Char → Bool) (cs : List Char) : (takeWhileC p cs).2.length ≤ cs.length := by
  have := takeWhileC_split p cs _ _ rfl
  have h2 := congrArg List.length this
  simp only [List.length_append] at h2
  omega

theorem chanSegments_rest_noseg (f : Nat) (r : List Char) (h : r.length < f) :
    ∀ c tl, (chanSegments f r).2 = '/' :: c :: tl → isAlphaA c = false := by
  fun_induction chanSegments f r with
  | case1 => omega
  | case2 f c cs hc seg rest hseg more rest' hmore ih =>
    rw [hmore] at ih
    have hl : rest.length ≤ cs.length := by
      have := takeWhileC_len isIdChar cs
      rw [hseg] at this
      exact this
    exact ih (by simp only [List.length_cons] at h; omega)
  | case3 f c cs hc =>
    intro c' tl he
    cases he
    exact Bool.eq_false_iff.mpr hc
  | case4 f cs h1 h2 =>
    intro c tl he
    obtain ⟨n, rfl⟩ : ∃ n, f = n + 1 := ⟨f - 1, by omega⟩
    exact (h2 n c tl rfl he).elim

theorem headAny_local (p : Char → Bool) (rest0 : List Char) {rest : List Char} (h : ∀ x, rest.head? = some x → p x = false) :
    (rest0 ++ rest).head?.any p = rest0.head?.any p := by
  cases rest0 with
  | cons _ _ => rfl
  | nil =>
    cases rest with
    | nil => rfl
    | cons w _ => simp [h w rfl]

theorem numGuard_local (c : Char) (rest0 : List Char) {rest : List Char} (hr : WsStart rest) :
    numGuard c (rest0 ++ rest) = numGuard c rest0 := by
  cases rest0 with
  | cons _ _ => rfl
  | nil =>
    cases rest with
    | nil => rfl
    | cons w _ => simp [numGuard, hr.all (Q := fun x => isDigitA x = false) (by decide) w rfl]

theorem twoChar_pair {c b : Char} (xs : List Char)
    (h : (c, b) ∈ [('*', '*'), ('<', '='), ('>', '='), ('!', '='), ('!', '['), (']', '!')]) : twoChar c (b :: xs) = some [c, b] := by
  simp only [List.mem_cons, Prod.mk.injEq, List.not_mem_nil, or_false] at h
  rcases h with ⟨rfl, rfl⟩ | ⟨rfl, rfl⟩ | ⟨rfl, rfl⟩ | ⟨rfl, rfl⟩ | ⟨rfl, rfl⟩ | ⟨rfl, rfl⟩ <;> rfl

theorem twoChar_eq (c : Char) (rest : List Char) :
    twoChar c rest = match rest with
      | b :: _ => if (c, b) ∈ [('*', '*'), ('<', '='), ('>', '='), ('!', '='), ('!', '['), (']', '!')] then some [c, b] else none
      | [] => none := by
  cases h : twoChar c rest with
  | some t =>
    obtain ⟨b, xs, rfl, hm, rfl⟩ := twoChar_some h
    exact (if_pos hm).symm
  | none =>
    cases rest with
    | nil => rfl
    | cons b xs =>
      by_cases hm : (c, b) ∈ [('*', '*'), ('<', '='), ('>', '='), ('!', '='), ('!', '['), (']', '!')]
      · rw [twoChar_pair xs hm] at h
        cases h
      · exact (if_neg hm).symm

theorem twoChar_nil (c : Char) : twoChar c [] = none := twoChar_eq c []

theorem twoChar_local (c : Char) (rest0 : List Char) {rest : List Char} (hr : WsStart rest) :
    twoChar c (rest0 ++ rest) = twoChar c rest0 := by
  rw [twoChar_eq, twoChar_eq c rest0]
  cases rest0 with
  | cons x xs => rfl
  | nil =>
    cases rest with
    | nil => rfl
    | cons w r2 =>
      refine if_neg fun hm => ?_
      have all : ∀ p ∈ [('*', '*'), ('<', '='), ('>', '='), ('!', '='), ('!', '['), (']', '!')], isWs p.2 = false := by decide
      exact absurd (hr w rfl) (by rw [all (c, w) hm]; exact Bool.false_ne_true)

theorem takeWhileC_local_cons (p : Char → Bool) (c : Char) (w : List Char) {rest : List Char} (h : ∀ x, rest.head? = some x → p x = false) :
    takeWhileC p (c :: (w ++ rest)) = ((takeWhileC p (c :: w)).1, (takeWhileC p (c :: w)).2 ++ rest) :=
  takeWhileC_local p (c :: w) rest h

theorem chanSegments_local' (r : List Char) {rest : List Char} (hr : WsStart rest) :
    chanSegments ((r ++ rest).length + 1) (r ++ rest) = ((chanSegments (r.length + 1) r).1, (chanSegments (r.length + 1) r).2 ++ rest) :=
  chanSegments_gen (r.length + 1) r _ _ rfl (chanSegments_rest_noseg _ _ (by omega)) rest hr.nameEnd _ (by simp only [List.length_append]; omega)

theorem scanNumber_local_cons (c : Char) (w : List Char) {rest : List Char} (hr : WsStart rest) :
    scanNumber (c :: (w ++ rest)) = (scanNumber (c :: w)).map (fun p => (p.1, p.2 ++ rest)) :=
  scanNumber_local (c :: w) rest hr.numStop

/-- how a token changes the brace depth -/
def tokStep (d : Nat) (t : Tok) : Nat := if isSym t "{" then d + 1 else if isSym t "}" then d - 1 else d
def tokDepth (ts : List Tok) (d : Nat) : Nat := ts.foldl tokStep d

theorem tokDepth_append (a b : List Tok) (d : Nat) : tokDepth (a ++ b) d = tokDepth b (tokDepth a d) := by
  simp [tokDepth, List.foldl_append]

theorem tokStep_nonsym {t : Tok} (h : (t.kind == .sym) = false) (d : Nat) : tokStep d t = d := by
  simp [tokStep, isSym, h]

theorem single_eq (c s : Char) : (String.ofList [c] == String.ofList [s]) = (c == s) := by
  rw [Bool.eq_iff_iff, beq_iff_eq, beq_iff_eq, String.ofList_inj]
  exact ⟨fun h => (List.cons.inj h).1, fun h => h ▸ rfl⟩

theorem tokStep_single (c : Char) (g aw : Bool) (d : Nat) :
    tokStep d ⟨.sym, String.ofList [c], g, aw⟩ = if c == '{' then d + 1 else if c == '}' then d - 1 else d := by
  have e1 : (String.ofList [c] == "{") = (c == '{') := single_eq c '{'
  have e2 : (String.ofList [c] == "}") = (c == '}') := single_eq c '}'
  simp only [tokStep, isSym, e1, e2, beq_self_eq_true, Bool.true_and]

theorem tokStep_two {c : Char} {r t : List Char} (h : twoChar c r = some t) (g aw : Bool) (d : Nat) :
    tokStep d ⟨.sym, String.ofList t, g, aw⟩ = d := by
  obtain ⟨b, _, _, hm, rfl⟩ := twoChar_some h
  have all : ∀ p ∈ [('*', '*'), ('<', '='), ('>', '='), ('!', '='), ('!', '['), (']', '!')],
      (String.ofList [p.1, p.2] == "{") = false ∧ (String.ofList [p.1, p.2] == "}") = false := by decide
  obtain ⟨h1, h2⟩ := all (c, b) hm
  simp only [tokStep, isSym, h1, h2, Bool.and_false, Bool.false_eq_true, if_false]

theorem takeWhileC_len_cons (p : Char → Bool) (c : Char) (cs : List Char) (hc : p c = true) :
    (takeWhileC p (c :: cs)).2.length ≤ cs.length := by
  simp only [takeWhileC, hc, if_true]
  exact takeWhileC_len p cs

theorem chanSegments_len (f : Nat) (cs : List Char) : (chanSegments f cs).2.length ≤ cs.length := by
  fun_induction chanSegments f cs with
  | case1 => exact Nat.le_refl _
  | case2 f c cs hc seg rest hseg more rest' hmore ih =>
    have h2 := takeWhileC_len isIdChar cs
    rw [hseg] at h2
    rw [hmore] at ih
    exact Nat.le_trans ih (Nat.le_trans h2 (by simp only [List.length_cons]; omega))
  | case3 => exact Nat.le_refl _
  | case4 => exact Nat.le_refl _

theorem scanString_len (rest0 s r : List Char) (h : scanString rest0 ['"'] = some (s, r)) : r.length ≤ rest0.length := by
  obtain ⟨body, hb, _, _⟩ := scanString_self _ _ _ _ h
  rw [hb]; simp

theorem scanNumber_len (c : Char) (rest0 n r : List Char) (h : scanNumber (c :: rest0) = some (n, r)) : r.length ≤ rest0.length := by
  obtain ⟨hcs, hself⟩ := scanNumber_self _ _ _ h
  cases n with
  | nil => exact absurd hself (by decide)
  | cons x xs =>
    simp only [List.cons_append, List.cons.injEq] at hcs
    rw [hcs.2]; simp

theorem scanTok_append {d : Nat} {c : Char} {rest0 : List Char} {k : TokKind} {t r : List Char} {d' : Nat} {aw' : Bool}
    (h : scanTok d c rest0 = some (k, t, r, d', aw')) {rest : List Char} (hr : WsStart rest) :
    scanTok d c (rest0 ++ rest) = some (k, t, r ++ rest, d', aw') := by
  unfold scanTok at h ⊢
  simp only [headAny_local isIdStart rest0 (hr.all (by decide)), headAny_local isAlphaA rest0 (hr.all (by decide)), numGuard_local c rest0 hr, twoChar_local c rest0 hr,
    takeWhileC_local isIdChar rest0 rest hr.notId, takeWhileC_local_cons isIdChar c rest0 hr.notId,
    chanSegments_local' _ hr, scanNumber_local_cons c rest0 hr]
  by_cases hat : (c == '@') = true
  · rw [if_pos hat] at h ⊢
    replace h := ite_eq h
    rcases h with ⟨hi, h⟩ | ⟨_, h⟩ <;> cases h
    exact if_pos hi
  rw [if_neg hat] at h ⊢
  by_cases hq : (c == '"') = true
  · rw [if_pos hq] at h ⊢
    cases hs : scanString rest0 ['"'] with
    | none => rw [hs] at h; cases h
    | some p =>
      rw [hs] at h
      rw [scanString_local rest0 _ p.1 p.2 rest hs]
      cases h
      rfl
  rw [if_neg hq] at h ⊢
  by_cases hn : numGuard c rest0 = true
  · rw [if_pos hn] at h ⊢
    cases hs : scanNumber (c :: rest0) with
    | none => rw [hs] at h; cases h
    | some p =>
      rw [hs] at h
      cases h
      rfl
  rw [if_neg hn] at h ⊢
  by_cases hi : isIdStart c = true
  · rw [if_pos hi] at h ⊢
    by_cases hch : (d == 0 && isAlphaA c) = true
    · rw [if_pos hch] at h ⊢
      cases h
      rfl
    · rw [if_neg hch] at h ⊢
      cases h
      rfl
  rw [if_neg hi] at h ⊢
  by_cases hl : (d == 0 && (c == '/' || c == '~')) = true
  · rw [if_pos hl] at h ⊢
    replace h := ite_eq h
    rcases h with ⟨ha, h⟩ | ⟨_, h⟩ <;> cases h
    exact if_pos ha
  rw [if_neg hl] at h ⊢
  cases h2 : twoChar c rest0 with
  | some t2 =>
    rw [h2] at h
    cases h
    cases rest0 with
    | nil => rw [twoChar_nil] at h2; cases h2
    | cons _ _ => rfl
  | none =>
    rw [h2] at h
    by_cases ho : (c == '{') = true
    · rw [if_pos ho] at h ⊢
      cases h
      rfl
    rw [if_neg ho] at h ⊢
    by_cases hc : (c == '}') = true
    · rw [if_pos hc] at h ⊢
      cases h
      rfl
    rw [if_neg hc] at h ⊢
    replace h := ite_eq h
    rcases h with ⟨hp, h⟩ | ⟨_, h⟩ <;> cases h
    exact if_pos hp

theorem scanTok_len {d : Nat} {c : Char} {rest0 : List Char} {k : TokKind} {t r : List Char} {d' : Nat} {aw' : Bool}
    (h : scanTok d c rest0 = some (k, t, r, d', aw')) : r.length ≤ rest0.length := by
  rcases scanTok_cases h with ⟨_, _, _, hw, _⟩ | ⟨_, _, hs, _⟩ | ⟨_, _, hn, _⟩ | ⟨_, _, _, hw⟩ | ⟨_, _, hy⟩
  · rw [← (Prod.mk.inj hw).2]; exact takeWhileC_len _ _
  · exact scanString_len _ _ _ hs
  · exact scanNumber_len _ _ _ _ hn
  · rcases hw with ⟨hi, _, hw⟩ | ⟨ha, _, _, rfl⟩ | ⟨_, _, _, _, rfl⟩
    · rw [← (Prod.mk.inj hw).2]; exact takeWhileC_len_cons _ _ _ (idStart_idChar c hi)
    · exact Nat.le_trans (chanSegments_len _ _) (takeWhileC_len_cons _ _ _ (idStart_idChar c (by simp [isIdStart, ha])))
    · exact Nat.le_trans (chanSegments_len _ _) (takeWhileC_len _ _)
  · rcases hy with ⟨_, rfl, _⟩ | ⟨_, _, rfl, _⟩
    · simp
    · exact Nat.le_refl _

theorem scanTok_depth {d : Nat} {c : Char} {rest0 : List Char} {k : TokKind} {t r : List Char} {d' : Nat} {aw' : Bool}
    (h : scanTok d c rest0 = some (k, t, r, d', aw')) (g aw : Bool) : d' = tokStep d ⟨k, String.ofList t, g, aw⟩ := by
  rcases scanTok_cases h with ⟨rfl, _, _, _, hd, _⟩ | ⟨rfl, _, _, hd, _⟩ | ⟨rfl, _, _, hd, _⟩ | ⟨rfl, hd, _⟩ | ⟨rfl, _, hy⟩
  iterate 4 exact hd.trans (tokStep_nonsym (by rfl) d).symm
  · rcases hy with ⟨h2, _, hd⟩ | ⟨_, rfl, _, hb⟩
    · exact hd.trans (tokStep_two h2 g aw d).symm
    · rw [tokStep_single]
      rcases hb with ⟨rfl, hd⟩ | ⟨rfl, hd⟩ | ⟨hp, hd⟩
      · exact hd
      · exact hd
      · obtain ⟨_, _, _, _, _, _, h1, h2⟩ := punct_class hp
        exact hd.trans ((bite_neg h1 _ _).trans (bite_neg h2 _ _)).symm

/-- **the scanner is local**: a text that is scanned successfully is scanned to the same tokens when anything beginning with a
    white-space character follows it; the scanner then continues on what follows with the brace depth it reached -/
theorem scan_append : ∀ (f : Nat) (cs : List Char) (d : Nat) (g aw : Bool) (acc ts : List Tok),
    scan f cs d g aw acc = .ok ts → ∀ rest, WsStart rest →
    ∃ (k d' : Nat) (g' aw' : Bool) (new : List Tok), k ≤ cs.length ∧ ts = acc.reverse ++ new ∧ d' = tokDepth new d ∧
      ∀ f2, scan (f2 + k) (cs ++ rest) d g aw acc = scan f2 rest d' g' aw' ts.reverse := by
  intro f
  induction f with
  | zero => intro cs d g aw acc ts h; cases h
  | succ f ih =>
    intro cs d g aw acc ts h rest hr
    cases cs with
    | nil =>
      cases Except.ok.inj h
      exact ⟨0, d, g, aw, [], Nat.le_refl _, by simp, rfl, fun f2 => by simp⟩
    | cons c rest0 =>
      rw [scan_cons] at h
      by_cases hws : isWs c = true
      · rw [if_pos hws] at h
        obtain ⟨k, d', g', aw', new, hkl, hts, hd', hk⟩ := ih rest0 d false false acc ts h rest hr
        exact ⟨k + 1, d', g', aw', new, Nat.succ_le_succ hkl, hts, hd', fun f2 => by
          rw [← Nat.add_assoc, List.cons_append, scan_ws hws, hk]⟩
      · rw [if_neg hws] at h
        cases hst : scanTok d c rest0 with
        | none => rw [hst] at h; cases h
        | some x =>
          obtain ⟨kd, t, r, d1, aw1⟩ := x
          rw [hst] at h
          obtain ⟨k, d', g', aw', new, hkl, hts, hd', hk⟩ := ih r d1 true aw1 (_ :: acc) ts h rest hr
          refine ⟨k + 1, d', g', aw', ⟨kd, String.ofList t, g, aw⟩ :: new, ?_, by simp [hts], ?_, fun f2 => ?_⟩
          · exact Nat.succ_le_succ (Nat.le_trans hkl (scanTok_len hst))
          · rw [hd', scanTok_depth hst g aw]
            rfl
          · rw [← Nat.add_assoc, List.cons_append, scan_tok (by simpa using hws) (scanTok_append hst hr), hk]

/-- more fuel and older tokens below do not change a successful scan -/
theorem scan_more : ∀ (f : Nat) (cs : List Char) (d : Nat) (g aw : Bool) (acc ts : List Tok),
    scan f cs d g aw acc = .ok ts → ∀ (f' : Nat) (acc' : List Tok), f ≤ f' → scan f' cs d g aw (acc ++ acc') = .ok (acc'.reverse ++ ts) := by
  intro f
  induction f with
  | zero => intro cs d g aw acc ts h; cases h
  | succ f ih =>
    intro cs d g aw acc ts h f' acc' hf
    obtain ⟨f'', rfl⟩ : ∃ n, f' = n + 1 := ⟨f' - 1, by omega⟩
    have hf : f ≤ f'' := by omega
    cases cs with
    | nil =>
      cases Except.ok.inj h
      rw [scan_nil, List.reverse_append]
    | cons c rest0 =>
      rw [scan_cons] at h ⊢
      by_cases hws : isWs c = true
      · rw [if_pos hws] at h ⊢
        exact ih _ _ _ _ _ _ h f'' acc' hf
      · rw [if_neg hws] at h ⊢
        cases hst : scanTok d c rest0 with
        | none => rw [hst] at h; cases h
        | some x =>
          rw [hst] at h
          exact ih _ _ _ _ (_ :: acc) _ h f'' acc' hf

/-- **texts separated by a white-space character are scanned one after the other**: the tokens of the first, then the tokens of
    the second scanned from the brace depth the first leaves -/
theorem scan_concat (s1 s2 : List Char) (w : Char) (hw : isWs w = true) (d : Nat) (ts1 ts2 : List Tok)
    (h1 : scan (s1.length + 1) s1 d false false [] = .ok ts1)
    (h2 : scan (s2.length + 1) s2 (tokDepth ts1 d) false false [] = .ok ts2) :
    scan ((s1 ++ w :: s2).length + 1) (s1 ++ w :: s2) d false false [] = .ok (ts1 ++ ts2) := by
  obtain ⟨k, d', g', aw', new, hk, hts, hd', hscan⟩ := scan_append _ _ _ _ _ _ _ h1 (w :: s2)
    (fun x hx => by simp only [List.head?_cons, Option.some.injEq] at hx; exact hx ▸ hw)
  simp only [List.reverse_nil, List.nil_append] at hts
  subst hts
  have hfuel : (s1 ++ w :: s2).length + 1 = (s2.length + 1 + 1) + k + (s1.length - k) := by
    simp only [List.length_append, List.length_cons]; omega
  -- first with exactly the fuel `scan_append` speaks about, then with the fuel of the whole text
  have hmain : scan ((s2.length + 1 + 1) + k) (s1 ++ w :: s2) d false false [] = .ok (ts1 ++ ts2) := by
    rw [hscan, scan_ws hw]
    have := scan_more _ _ _ _ _ _ _ h2 (s2.length + 1) ts1.reverse (Nat.le_refl _)
    simpa [hd'] using this
  have := scan_more _ _ _ _ _ _ _ hmain ((s1 ++ w :: s2).length + 1) [] (by omega)
  simpa using this

/-- leading white space is skipped -/
theorem scan_skip_ws : ∀ (W : List Char), W.all isWs = true → ∀ (f : Nat) (cs : List Char) (d : Nat) (acc : List Tok),
    scan (f + W.length) (W ++ cs) d false false acc = scan f cs d false false acc := by
  intro W
  induction W with
  | nil => intros; rfl
  | cons w W ih =>
    intro hW f cs d acc
    simp only [List.all_cons, Bool.and_eq_true] at hW
    exact (scan_ws hW.1 _ _ _ _ _ _).trans (ih hW.2 f cs d acc)

/-- **the amount and kind of white space between two texts does not matter**: any non-empty run of white-space characters between
    them gives the tokens of the first followed by the tokens of the second -/
theorem scan_ws_irrelevant (s1 s2 W : List Char) (hne : W ≠ []) (hW : W.all isWs = true) (d : Nat) (ts1 ts2 : List Tok)
    (h1 : scan (s1.length + 1) s1 d false false [] = .ok ts1)
    (h2 : scan (s2.length + 1) s2 (tokDepth ts1 d) false false [] = .ok ts2) :
    scan ((s1 ++ W ++ s2).length + 1) (s1 ++ W ++ s2) d false false [] = .ok (ts1 ++ ts2) := by
  cases W with
  | nil => exact absurd rfl hne
  | cons w W' =>
    simp only [List.all_cons, Bool.and_eq_true] at hW
    have h2' : scan ((W' ++ s2).length + 1) (W' ++ s2) (tokDepth ts1 d) false false [] = .ok ts2 := by
      rw [show (W' ++ s2).length + 1 = (s2.length + 1) + W'.length by simp only [List.length_append]; omega,
        scan_skip_ws W' hW.2]
      exact h2
    have := scan_concat s1 (W' ++ s2) w hW.1 d ts1 ts2 h1 h2'
    simpa [List.append_assoc] using this

/-- … so two layouts of the same two texts are scanned alike -/
theorem layout_irrelevant (s1 s2 W W' : List Char) (hne : W ≠ []) (hne' : W' ≠ []) (hW : W.all isWs = true) (hW' : W'.all isWs = true)
    (d : Nat) (ts1 ts2 : List Tok) (h1 : scan (s1.length + 1) s1 d false false [] = .ok ts1)
    (h2 : scan (s2.length + 1) s2 (tokDepth ts1 d) false false [] = .ok ts2) :
    scan ((s1 ++ W ++ s2).length + 1) (s1 ++ W ++ s2) d false false [] =
    scan ((s1 ++ W' ++ s2).length + 1) (s1 ++ W' ++ s2) d false false [] := by
  rw [scan_ws_irrelevant s1 s2 W hne hW d ts1 ts2 h1 h2, scan_ws_irrelevant s1 s2 W' hne' hW' d ts1 ts2 h1 h2]

/-- the texts of a file, one per line -/
def joinLines : List (List Char) → List Char
  | [] => []
  | [a] => a
  | a :: b :: rest => a ++ '\n' :: joinLines (b :: rest)

/-- **scanner, file level**: texts each of which is scanned on its own at depth 0 and closes the braces it opens are scanned, one
    per line, to the concatenation of their token sequences -/
theorem scan_lines : ∀ (parts : List (List Char × List Tok)), parts ≠ [] →
    (∀ p ∈ parts, scan (p.1.length + 1) p.1 0 false false [] = .ok p.2 ∧ tokDepth p.2 0 = 0) →
    scan ((joinLines (parts.map (·.1))).length + 1) (joinLines (parts.map (·.1))) 0 false false [] = .ok (parts.flatMap (·.2)) := by
  intro parts
  induction parts with
  | nil => intro h _; exact absurd rfl h
  | cons p tl ih =>
    intro _ hp
    have h1 := hp p (List.mem_cons_self ..)
    cases tl with
    | nil => exact h1.1.trans (congrArg Except.ok (List.append_nil _).symm)
    | cons q rest =>
      have ih := ih (List.cons_ne_nil _ _) (fun x hx => hp x (List.mem_cons_of_mem _ hx))
      exact scan_concat p.1 (joinLines ((q :: rest).map (·.1))) '\n' (by decide) 0 p.2 _ h1.1 (by rw [h1.2]; exact ih)

theorem lex_eq (s : String) : lex s = scan (s.toList.length + 1) s.toList 0 false false [] := rfl

/-- **C18 on texts**: property texts that are scanned and parsed on their own, and close the braces they open, written one per
    line, make a file that parses to exactly their properties, in order (and fails exactly with the first member whose
    construction fails); each member is what `parse_property` returns for its own text. -/
theorem parseSpecification_lines (parts : List (String × List Tok × RawProperty)) (hne : parts ≠ [])
    (h : ∀ p ∈ parts, lex p.1 = .ok p.2.1 ∧ tokDepth p.2.1 0 = 0 ∧ parsePropertyToks p.2.1 = .ok p.2.2) :
    parseSpecification (String.ofList (joinLines (parts.map (·.1.toList)))) = (parts.map (·.2.2)).mapM buildProperty ∧
    ∀ p ∈ parts, parseProperty p.1 = buildProperty p.2.2 := by
  constructor
  · have hscan := scan_lines (parts.map fun p => (p.1.toList, p.2.1)) (by simpa using hne) fun q hq => by
      obtain ⟨p, hp, rfl⟩ := List.mem_map.1 hq
      exact ⟨(h p hp).1, (h p hp).2.1⟩
    rw [List.map_map, List.flatMap_map] at hscan
    have := parseSpecification_concat _ _ (parts.map fun p => (p.2.1, p.2.2))
      (by rw [lex_eq, String.toList_ofList]; exact hscan.trans (by simp only [fileToks, List.flatMap_map]))
      rfl (fun c hc => by obtain ⟨p, hp, rfl⟩ := List.mem_map.1 hc; exact (h p hp).2.2) (by simpa using hne)
    rwa [List.map_map] at this
  · intro p hp
    exact parseProperty_of_toks p.1 p.2.1 (p.2.1, p.2.2) (h p hp).1 rfl (h p hp).2.2

end Hpl
