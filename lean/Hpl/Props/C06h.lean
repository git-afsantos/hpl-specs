import Hpl.Props.C06g
/-!
# C06 — text-level round trip for predicates; non-vacuity of the expression and predicate theorems
-/
namespace Hpl

/-- the text of a predicate: `{ ` expression ` }` -/
def predChars (r : Raw) : List Char := ['{'] ++ ([' '] ++ (r.chars ++ ([' '] ++ ['}'])))

theorem lexPred (r : Raw) (hp : r.printable = true) (hl : r.lexOk) :
    Lx (predChars r) 0 false ((symT "{" :: (r.toks ++ [symT "}"])).map tokKey) 0 true (fun _ => True) :=
  ((lx_open 0).comp ((lx_space 1).comp ((lexR r hp hl 1 (by decide)).delim.comp
    ((lx_space 1).comp (lx_close 0) rfl (fun _ _ => trivial)) rfl (fun _ _ => delim_cons (by decide))) rfl (fun _ _ => trivial))
    rfl (fun _ _ => trivial)).keys (by simp)

theorem lex_printed_pred (r : Raw) (hp : r.printable = true) (hl : r.lexOk) :
    ∃ o ts c, lex (String.ofList (predChars r)) = .ok (o :: (ts ++ [c])) ∧ isSym o "{" = true ∧ isSym c "}" = true ∧
      ts.map tokKey = r.toks.map tokKey := by
  obtain ⟨ts, hs, hk⟩ := scan_of_Lx ((lexPred r hp hl).weaken (P' := fun _ => True) (fun _ _ => trivial)) trivial
  obtain ⟨o, r1, rfl, hko, h1⟩ := map_cons_inv hk
  obtain ⟨ts', c', rfl, hts, h2⟩ := map_append_inv h1
  obtain ⟨c, rfl, hkc⟩ := map_single_inv h2
  refine ⟨o, ts', c, ?_, by rw [key_isSym hko]; decide, by rw [key_isSym hkc]; decide, hts⟩
  unfold lex
  simp only [String.toList_ofList]
  exact hs

theorem parse_printed_pred (r : Raw) (hp : r.printable = true) (hl : r.lexOk) :
    parsePredicate (String.ofList (predChars r)) = (do let e ← build r; predFromExpr e) := by
  obtain ⟨o, ts, c, hlex, ho, hc, hk⟩ := lex_printed_pred r hp hl
  unfold parsePredicate
  rw [hlex]
  simp only [parse_predicate_complete (renders_sim (printed_is_rendering r hp) ts hk) o c ho hc]

theorem pred_print_chars {r : Raw} {e : Expr} {p : Pred} (hp : r.printable = true) (hb : build r = .ok e) (hpr : predFromExpr e = .ok p) :
    p.print = String.ofList (predChars r) := by
  have he : e.print.toList = r.chars := by rw [print_erase e, build_erase r e hb, print_chars r hp]
  have wrap : ∀ s : String, s.toList = r.chars → ("{ " ++ s ++ " }") = String.ofList (predChars r) := by
    intro s hs
    apply String.toList_injective
    simp only [String.toList_append, String.toList_ofList, predChars, hs]
    rw [show ("{ " : String).toList = ['{', ' '] by decide, show (" }" : String).toList = [' ', '}'] by decide]
    simp
  rcases predFromExpr_ok hpr with ⟨t, tok, b, rfl, rfl⟩ | hpr
  · have hr : r = .lit tok (.bool b) := by rw [← build_erase r _ hb]; rfl
    subst hr
    simp only [Raw.printable, litOk, beq_iff_eq] at hp
    have := wrap tok he
    subst hp
    cases b <;> simpa [Pred.print] using this
  · obtain ⟨e', he', _, rfl⟩ := mkPred_ok hpr
    exact wrap _ (by rw [print_erase, castE_erase he', ← print_erase]; exact he)

/-- **C06 on strings, predicates**: `parse_predicate (str p) = p` for every predicate the parser's constructors build from a printable
    syntax tree whose literal tokens and variable names are complete tokens. -/
theorem pred_print_parse_roundtrip (r : Raw) (e : Expr) (p : Pred) (hp : r.printable = true) (hl : r.lexOkB = true)
    (hb : build r = .ok e) (hpr : predFromExpr e = .ok p) : parsePredicate p.print = .ok p := by
  rw [pred_print_chars hp hb hpr, parse_printed_pred r hp (lexOk_of_B r hl), hb]
  exact hpr

/-! ## non-vacuity: the hypotheses hold of a tree with a reference chain, a set, a string and a boolean literal, a number -/

def textExample : Raw :=
  .un "not" (.bin "in" (.field (.var "A") "y") (.set (.cons (.lit "True" (.bool true)) (.cons (.lit "\"a\"" (.str "\"a\"")) .nil))))

theorem textExample_printable : textExample.printable = true := by
  simp only [textExample, Raw.printable, RawList.printable, Raw.isRef, Bool.and_eq_true, Bool.and_true, Bool.true_and]
  decide

theorem textExample_lexOkB : textExample.lexOkB = true := by
  simp only [textExample, Raw.lexOkB, RawList.lexOkLB, Bool.and_eq_true, Bool.and_true]
  decide

theorem textExample_chars : String.ofList textExample.chars = "(not (@A.y in {True, \"a\"}))" := by
  simp only [textExample, Raw.chars, RawList.charsSep]
  decide

theorem textExample_builds : ∃ e, build textExample = .ok e := by
  have h : (match build textExample with | .ok _ => true | .error _ => false) = true := by decide
  cases hb : build textExample with
  | ok e => exact ⟨e, rfl⟩
  | error _ => rw [hb] at h; cases h

example : ∃ e, build textExample = .ok e ∧ e.print = "(not (@A.y in {True, \"a\"}))" ∧ parseExpression e.print = .ok e := by
  obtain ⟨e, he⟩ := textExample_builds
  refine ⟨e, he, ?_, print_parse_roundtrip_dec _ e textExample_printable textExample_lexOkB he⟩
  rw [print_erase e, build_erase _ e he, ← textExample_chars, ← print_chars _ textExample_printable, String.ofList_toList]

/-- a number literal with fraction and exponent is a complete token; `1.`, `.`, `1e` followed by nothing are not numbers of that text -/
example : numTokOk "12.5e-3".toList = true ∧ numTokOk ".5".toList = true ∧ numTokOk "10.".toList = true ∧
    numTokOk "1e".toList = false ∧ numTokOk ".".toList = false ∧ numTokOk "1.2.3".toList = false := by decide

example : strTokOk "\"a\\\"b\"".toList = true ∧ strTokOk "\"a\"b\"".toList = false ∧ strTokOk "\"a".toList = false := by decide

end Hpl
