import Hpl.Props.C14b
/-! C13 / C14: `negate` is total on predicates made of well-typed boolean conditions. -/
namespace Hpl

theorem refsOk_un (t : DataType) (op : String) (a : Expr) : refsOk (.un t op a) = refsOk a := by
  simp only [refsOk, Expr.refOccs]

theorem mkPred_stable {e : Expr} (hty : e.ty = T.BOOL) (hr : refsOk e = true) : mkPred e = .ok (.expr e) := by
  unfold mkPred
  rw [castE_stable (by rw [hty]; decide) (by rw [hty]; decide)]
  simp only [bind, Except.bind, hr, if_true]
  rfl

/-- **`HplPredicate.negate` never fails** on a predicate whose condition is well-typed (what `mkPred` of a parser output is) -/
theorem negate_total (p : Pred) (hp : WTPred p) : ∃ p', p.negate = .ok p' := by
  cases p with
  | vtrue => exact ⟨_, rfl⟩
  | vfalse => exact ⟨_, rfl⟩
  | expr e =>
    obtain ⟨hw, hty, hrefs⟩ := hp
    have viaNot : ∃ p', (do let n ← mkNot e; mkPred n) = .ok p' := by
      rw [mkNot_accepts hty]
      exact ⟨_, mkPred_stable rfl (by rw [refsOk_un]; exact hrefs)⟩
    cases e with
    | un t op a =>
      simp only [Pred.negate]
      split
      · rename_i hop
        rw [refsOk_un] at hrefs
        exact ⟨_, mkPred_stable (WT_not_operand hw (eq_of_beq hop)).1 hrefs⟩
      · exact viaNot
    | lit _ _ _ | this _ | var _ _ | set _ _ | range _ _ _ _ _ | quant _ _ _ _ _ | bin _ _ _ _ | call _ _ _ | field _ _ _ | index _ _ _ =>
      simp only [Pred.negate]; exact viaNot

/-- ... in particular on every predicate the parser builds; and the negation is again such a predicate (C03: `negate_WT` where
    stated), so `negate` can be iterated -/
theorem negate_total_parsed (r : Raw) (p : Pred) (h : (build r >>= predFromExpr) = .ok p) : ∃ p', p.negate = .ok p' :=
  negate_total p (parse_predicate_WT r p h)

end Hpl
