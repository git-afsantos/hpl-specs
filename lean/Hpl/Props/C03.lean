import Hpl.Model.Build
import Hpl.Spec.Typing
import Hpl.Lemmas.Except
/-!
# C03 — every AST the library hands out is well-typed

Model: `Hpl/Model/Build.lean` (smart constructors = attrs constructors; `build` = parser callbacks).
Spec: `WT` (expression level) and `WTPred` (predicate level), transcribing the statement clause by clause.

The call clause ("every operand of a function call has a type set inside the parameter type") is false on the commit
the verification started from: arguments are only checked for compatibility there (`abs(x)` keeps `x` at
{bool, number, string, array, message}). Commit 07c017f of /repo repairs it (see known_findings.json); `WT` states the
clause at full strength and `mkCall_WT` proves it for the repaired code, using the table obligation
`G3_overloads_unambiguous` (no two overloads of a function accept the same number of arguments).

The file is also the lemma library of the constructors, imported by most other files: facts about `sub` and `Atomic`, what
each constructor returns (`mk*_ok`) and how it fails (`mk*_error`), and the induction principles over a successful run
of `build` (`build_induct`) and of `replace` (`subst_induct`).
-/
namespace Hpl

theorem atomic_two_pow (n : Nat) : Atomic (2 ^ n) := by
  refine ⟨Nat.ne_of_gt (Nat.two_pow_pos n), fun t => ?_⟩
  -- the only bit that `2 ^ n &&& t` can have is bit `n` of `t`
  have key : ∀ m, (2 ^ n &&& t).testBit m = (decide (n = m) && t.testBit n) := by
    intro m
    rw [Nat.testBit_and, Nat.testBit_two_pow]
    by_cases hm : n = m <;> simp [hm]
  cases h : t.testBit n
  · exact .inl (Nat.eq_of_testBit_eq fun m => by rw [key, h]; simp)
  · exact .inr (Nat.eq_of_testBit_eq fun m => by rw [key, h, Nat.testBit_two_pow]; simp)

theorem sub_refl (a : DataType) : sub a a := Nat.and_self a
theorem and_sub_left (a t : DataType) : sub (a &&& t) a := by
  unfold sub; rw [Nat.and_comm (a &&& t) a, ← Nat.and_assoc, Nat.and_self]
theorem and_sub_right (a t : DataType) : sub (a &&& t) t := by
  unfold sub; rw [Nat.and_assoc, Nat.and_self]
theorem sub_trans {a b c : DataType} (h1 : sub a b) (h2 : sub b c) : sub a c := by
  unfold sub at *; rw [← h1, Nat.and_assoc, h2]

/-! ## generated-table obligations (G1–G3), re-checked on every run against the tables extracted from /repo -/

theorem atomic_of_bit {t : Nat} (h : (List.range 8).any (fun i => t == 2 ^ i) = true) : Atomic t := by
  obtain ⟨i, _, hi⟩ := List.any_eq_true.1 h
  rw [eq_of_beq hi]; exact atomic_two_pow i

theorem G1_atoms : Atomic T.BOOL ∧ Atomic T.NUMBER ∧ Atomic T.STRING ∧ Atomic T.ARRAY ∧ Atomic T.RANGE ∧ Atomic T.SET ∧ Atomic T.MESSAGE :=
  ⟨atomic_of_bit (by decide), atomic_of_bit (by decide), atomic_of_bit (by decide), atomic_of_bit (by decide), atomic_of_bit (by decide),
   atomic_of_bit (by decide), atomic_of_bit (by decide)⟩

theorem atomic_bool : Atomic T.BOOL := G1_atoms.1
theorem atomic_number : Atomic T.NUMBER := G1_atoms.2.1
theorem atomic_string : Atomic T.STRING := G1_atoms.2.2.1
theorem atomic_array : Atomic T.ARRAY := G1_atoms.2.2.2.1
theorem atomic_range : Atomic T.RANGE := G1_atoms.2.2.2.2.1
theorem atomic_set : Atomic T.SET := G1_atoms.2.2.2.2.2.1
theorem atomic_message : Atomic T.MESSAGE := G1_atoms.2.2.2.2.2.2

theorem isBase_cases {t : DataType} (h : isBase t = true) :
    t = T.BOOL ∨ t = T.NUMBER ∨ t = T.STRING ∨ t = T.ARRAY ∨ t = T.RANGE ∨ t = T.SET ∨ t = T.MESSAGE := by
  simpa [isBase, or_assoc] using h

theorem atomic_of_isBase {t : DataType} (h : isBase t = true) : Atomic t := by
  rcases isBase_cases h with rfl | rfl | rfl | rfl | rfl | rfl | rfl
  · exact atomic_bool
  · exact atomic_number
  · exact atomic_string
  · exact atomic_array
  · exact atomic_range
  · exact atomic_set
  · exact atomic_message

/-! G2/G3: every operator / function result is a single base type; every parameter a non-empty subset of ANY -/
theorem G2_un_results : ∀ d ∈ Gen.unOps, isBase d.res = true ∧ d.param ≠ 0 ∧ d.param &&& T.ANY = d.param := by decide
theorem G2_bin_results : ∀ d ∈ Gen.binOps, isBase d.res = true ∧ d.p1 ≠ 0 ∧ d.p2 ≠ 0 ∧ d.p1 &&& T.ANY = d.p1 ∧ d.p2 &&& T.ANY = d.p2 := by decide
theorem G3_fun_results : ∀ d ∈ Gen.funs, isBase d.result = true := by decide

/-- G2: every binary operator except `in` has overlapping parameter types (its operands are unified); `in` does not -/
theorem G2_similar_parameters : ∀ d ∈ Gen.binOps, (d.p1 &&& d.p2 ≠ 0) = (d.token ≠ Gen.IN_OPERATOR) := by decide

theorem un_res_atomic {op : String} {d : UnDef} (h : findUn op = some d) : Atomic d.res :=
  atomic_of_isBase (G2_un_results d (List.mem_of_find?_eq_some h)).1
theorem bin_res_atomic {op : String} {d : BinDef} (h : findBin op = some d) : Atomic d.res :=
  atomic_of_isBase (G2_bin_results d (List.mem_of_find?_eq_some h)).1
theorem fun_res_atomic {f : String} {d : FunDef} (h : findFun f = some d) : Atomic d.result :=
  atomic_of_isBase (G3_fun_results d (List.mem_of_find?_eq_some h))

theorem WT_atomic : ∀ e, WT e → isRefNode e = false → Atomic e.ty
  | .lit _ _ v, h, _ => by
      rw [show _ = v.ty from h]
      cases v <;> first | exact atomic_bool | exact atomic_number | exact atomic_string
  | .this _, h, _ => (show _ = T.MESSAGE from h) ▸ atomic_message
  | .set .., h, _ => (show _ = T.SET from h.1) ▸ atomic_set
  | .range .., h, _ => (show _ = T.RANGE from h.1) ▸ atomic_range
  | .quant .., h, _ => (show _ = T.BOOL from h.1) ▸ atomic_bool
  | .un .., ⟨_, hd, ht, _⟩, _ => (show _ = _ from ht) ▸ un_res_atomic hd
  | .bin .., ⟨_, hd, ht, _⟩, _ => (show _ = _ from ht) ▸ bin_res_atomic hd
  | .call .., ⟨_, hd, ht, _⟩, _ => (show _ = _ from ht) ▸ fun_res_atomic hd

/-- every well-typed node has a non-empty type set -/
theorem WT_ne : ∀ e, WT e → e.ty ≠ 0 := fun e h => by
  cases hr : isRefNode e
  · exact (WT_atomic e h hr).1
  · cases e <;> first | exact h.1 | cases hr

theorem castE_ok {e e' : Expr} {t : DataType} (h : castE e t = .ok e') :
    e'.ty = e.ty &&& t ∧ e'.ty ≠ 0 ∧ e' = e.withTy (e.ty &&& t) := by
  rcases ite_eq h with ⟨_, h⟩ | ⟨h0, h⟩
  · cases h
  · rcases ite_eq h with ⟨h1, h⟩ | ⟨_, h⟩ <;> cases h
    · rw [h1] at h0 ⊢; exact ⟨rfl, h0, (Expr.withTy_ty e).symm⟩
    · exact ⟨Expr.ty_withTy _ _, (Expr.ty_withTy _ e).symm ▸ h0, rfl⟩

theorem castE_sub {e e' : Expr} {t : DataType} (h : castE e t = .ok e') : sub e'.ty t ∧ sub e'.ty e.ty := by
  obtain ⟨hty, _, _⟩ := castE_ok h
  rw [hty]; exact ⟨and_sub_right _ _, and_sub_left _ _⟩

/-- narrowing preserves well-typedness (operators, calls, literals, sets, ranges, quantifiers are never re-typed:
    their type is a single base type, so the intersection is all or nothing) -/
theorem castE_WT {e e' : Expr} {t : DataType} (h : castE e t = .ok e') (hw : WT e) : WT e' := by
  obtain ⟨_, hne, rfl⟩ := castE_ok h
  rw [Expr.ty_withTy] at hne
  cases hr : isRefNode e
  · rw [((WT_atomic e hw hr).2 t).resolve_left hne, Expr.withTy_ty]
    exact hw
  · have hs := and_sub_left e.ty t
    cases e with
    | var ty x => exact ⟨hne, sub_trans hs hw.2⟩
    | field ty m n => exact ⟨hne, sub_trans hs hw.2.1, hw.2.2⟩
    | index ty a i => exact ⟨hne, sub_trans hs hw.2.1, hw.2.2⟩
    | _ => cases hr

/-! ## what the constructors return, and that they preserve the invariant -/

theorem mkUn_ok {op : String} {a e : Expr} (h : mkUn op a = .ok e) :
    ∃ d a', findUn op = some d ∧ castE a d.param = .ok a' ∧ e = .un d.res op a' := by
  unfold mkUn at h
  cases hd : findUn op with
  | none => rw [hd] at h; cases h
  | some d =>
    rw [hd] at h
    obtain ⟨a', ha', h⟩ := bind_ok h
    cases h
    exact ⟨d, a', rfl, ha', rfl⟩

theorem mkUn_WT {op : String} {a e : Expr} (h : mkUn op a = .ok e) (ha : WT a) : WT e := by
  obtain ⟨d, a', hd, ha', rfl⟩ := mkUn_ok h
  exact ⟨d, hd, rfl, castE_WT ha' ha, (castE_sub ha').1⟩

theorem mkBin_ok {op : String} {a b e : Expr} (h : mkBin op a b = .ok e) :
    ∃ d a1 b1, findBin op = some d ∧ castE a d.p1 = .ok a1 ∧ castE b d.p2 = .ok b1 ∧
      (d.p1 &&& d.p2 ≠ 0 ∧ (∃ a2 b2, castE a1 b1.ty = .ok a2 ∧ castE b1 a2.ty = .ok b2 ∧ e = .bin d.res op a2 b2) ∨
       ¬ d.p1 &&& d.p2 ≠ 0 ∧ e = .bin d.res op a1 b1) := by
  unfold mkBin at h
  cases hd : findBin op with
  | none => rw [hd] at h; cases h
  | some d =>
    rw [hd] at h
    obtain ⟨a1, ha1, h⟩ := bind_ok h
    obtain ⟨b1, hb1, h⟩ := bind_ok h
    refine ⟨d, a1, b1, rfl, ha1, hb1, ?_⟩
    rcases ite_eq h with ⟨hov, h⟩ | ⟨hov, h⟩
    · obtain ⟨a2, ha2, h⟩ := bind_ok h
      obtain ⟨b2, hb2, h⟩ := bind_ok h
      cases h
      exact .inl ⟨hov, a2, b2, ha2, hb2, rfl⟩
    · cases h
      exact .inr ⟨hov, rfl⟩

theorem mkBin_WT {op : String} {a b e : Expr} (h : mkBin op a b = .ok e) (ha : WT a) (hb : WT b) : WT e := by
  obtain ⟨d, a1, b1, hd, ha1, hb1, ⟨hov, a2, b2, ha2, hb2, rfl⟩ | ⟨hov, rfl⟩⟩ := mkBin_ok h
  · refine ⟨d, hd, rfl, castE_WT ha2 (castE_WT ha1 ha), castE_WT hb2 (castE_WT hb1 hb),
      sub_trans (castE_sub ha2).2 (castE_sub ha1).1, sub_trans (castE_sub hb2).2 (castE_sub hb1).1, fun _ => ?_⟩
    rw [(castE_ok hb2).1, (castE_ok ha2).1, Nat.and_comm b1.ty, Nat.and_assoc, Nat.and_self]
  · exact ⟨d, hd, rfl, castE_WT ha1 ha, castE_WT hb1 hb, (castE_sub ha1).1, (castE_sub hb1).1, fun h' => absurd h' hov⟩

/-! ### overload resolution is unambiguous (table obligation G3) -/

/-- can both signatures take the same number of arguments? -/
def arityOverlap (s1 s2 : Sig) : Bool :=
  match s1.variadic.isSome, s2.variadic.isSome with
  | false, false => s1.params.length == s2.params.length
  | true, false => s1.params.length ≤ s2.params.length
  | false, true => s2.params.length ≤ s1.params.length
  | true, true => true

theorem G3_overloads_unambiguous : ∀ d ∈ Gen.funs, d.overloads.Pairwise (fun s1 s2 => arityOverlap s1 s2 = false) := by decide

theorem accepts_arity {s : Sig} {tys : List DataType} (h : s.accepts tys = true) :
    s.params.length ≤ tys.length ∧ (tys.length ≤ s.params.length ∨ s.variadic.isSome = true) := by
  rcases ite_eq h with ⟨_, h⟩ | ⟨h1, h⟩
  · cases h
  · rcases ite_eq h with ⟨_, h⟩ | ⟨h2, _⟩
    · cases h
    · refine ⟨Nat.le_of_not_gt h1, ?_⟩
      cases hv : s.variadic with
      | some _ => exact .inr rfl
      | none =>
        rw [hv] at h2
        exact .inl (Nat.le_of_not_gt fun hl => h2 (by simp [hl]))

theorem accepts_overlap {s1 s2 : Sig} {tys : List DataType} (h1 : s1.accepts tys = true) (h2 : s2.accepts tys = true) :
    arityOverlap s1 s2 = true := by
  -- an overload without variadic part takes exactly `tys.length` arguments, one with a variadic part at most that many
  have fixed : ∀ {s : Sig}, s.accepts tys = true → s.variadic.isSome = false → s.params.length = tys.length :=
    fun h hv => Nat.le_antisymm (accepts_arity h).1 ((accepts_arity h).2.resolve_right (by rw [hv]; exact Bool.false_ne_true))
  unfold arityOverlap
  cases hv1 : s1.variadic.isSome <;> cases hv2 : s2.variadic.isSome
  · exact beq_iff_eq.2 ((fixed h1 hv1).trans (fixed h2 hv2).symm)
  · exact decide_eq_true (fixed h1 hv1 ▸ (accepts_arity h2).1)
  · exact decide_eq_true (fixed h2 hv2 ▸ (accepts_arity h1).1)
  · rfl

theorem unique_overload {f : String} {d : FunDef} (hd : findFun f = some d) (tys : List DataType) :
    (d.overloads.filter (·.accepts tys)).length ≤ 1 := by
  have hp := (G3_overloads_unambiguous d (List.mem_of_find?_eq_some hd)).filter (·.accepts tys)
  have hm : ∀ s ∈ d.overloads.filter (·.accepts tys), s.accepts tys = true := fun s hs => (List.mem_filter.1 hs).2
  generalize d.overloads.filter (·.accepts tys) = l at hp hm
  obtain _ | ⟨a, _ | ⟨b, _⟩⟩ := l
  · exact Nat.zero_le _
  · exact Nat.le_refl _
  -- two accepting overloads could take the same number of arguments
  have := (List.pairwise_cons.1 hp).1 b List.mem_cons_self
  rw [accepts_overlap (hm a List.mem_cons_self) (hm b (List.mem_cons_of_mem _ List.mem_cons_self))] at this
  cases this

/-- exactly one overload accepts the arguments (no two can, by `G3_overloads_unambiguous`), and they are narrowed to its
    parameter types -/
theorem mkCall_ok {f : String} {args : ExprList} {e : Expr} (h : mkCall f args = .ok e) :
    ∃ d s args', findFun f = some d ∧ d.overloads.filter (·.accepts args.tys) = [s] ∧
      castArgs args (s.paramsFor args.length) = .ok args' ∧ e = .call d.result f args' := by
  unfold mkCall at h
  cases hd : findFun f with
  | none => rw [hd] at h; cases h
  | some d =>
    simp only [hd] at h
    have huniq := unique_overload hd args.tys
    match hf : d.overloads.filter (·.accepts args.tys) with
    | [] => rw [hf] at h; cases h
    | [s] =>
      rw [hf] at h
      obtain ⟨args', hargs', h⟩ := bind_ok h
      cases h
      exact ⟨d, s, args', rfl, hf, hargs', rfl⟩
    | _ :: _ :: _ => rw [hf] at huniq; simp at huniq

/-- narrowing the arguments to the offered parameter types: well-typed, same length, each inside its parameter -/
theorem castArgs_spec : ∀ (args : ExprList) (ts : List DataType) (args' : ExprList),
    castArgs args ts = .ok args' → args.length ≤ ts.length → WTList args →
    WTList args' ∧ args'.tys.length = args.tys.length ∧ (∀ p ∈ List.zip args'.tys ts, sub p.1 p.2)
  | .nil, ts, args', h, _, _ => by
      cases ts <;> (cases h; exact ⟨trivial, rfl, nofun⟩)
  | .cons e es, [], args', h, hl, _ => absurd hl (Nat.not_succ_le_zero _)
  | .cons e es, t :: ts, args', h, hl, hw => by
      obtain ⟨e', he', h⟩ := bind_ok h
      obtain ⟨es', hes', h⟩ := bind_ok h
      cases h
      have ih := castArgs_spec es ts es' hes' (Nat.le_of_succ_le_succ hl) hw.2
      refine ⟨⟨castE_WT he' hw.1, ih.1⟩, congrArg (· + 1) ih.2.1, fun p hp => ?_⟩
      rcases List.mem_cons.1 hp with rfl | hp
      · exact (castE_sub he').1
      · exact ih.2.2 p hp

theorem ExprList.tys_length : ∀ es : ExprList, es.tys.length = es.length
  | .nil => rfl
  | .cons _ es => congrArg (· + 1) (ExprList.tys_length es)

theorem paramsFor_length (s : Sig) (n : Nat) (h : s.params.length ≤ n) : (s.paramsFor n).length = n := by
  simp [Sig.paramsFor]; omega

theorem mkCall_WT {f : String} {args : ExprList} {e : Expr} (h : mkCall f args = .ok e) (ha : WTList args) : WT e := by
  obtain ⟨d, s, args', hd, hs, hargs', rfl⟩ := mkCall_ok h
  obtain ⟨hs1, hs2⟩ := List.mem_filter.1 (hs ▸ List.mem_singleton_self s)
  obtain ⟨har1, har2⟩ := accepts_arity hs2
  rw [ExprList.tys_length] at har1 har2
  obtain ⟨w, hl, hin⟩ := castArgs_spec args _ args' hargs' (Nat.le_of_eq (paramsFor_length s _ har1).symm) ha
  rw [ExprList.tys_length, ExprList.tys_length] at hl
  refine ⟨d, hd, rfl, w, s, hs1, ?_, ?_⟩
  · rw [ExprList.tys_length, hl]; exact ⟨har1, har2⟩
  · unfold ArgsInside; rw [ExprList.tys_length, hl]; exact hin

theorem access_ne : T.ACCESS ≠ 0 := by decide

theorem mkFieldT_ok {t : DataType} {m e : Expr} {n : String} (h : mkFieldT t m n = .ok e) :
    ∃ m', castE m T.MESSAGE = .ok m' ∧ e = .field t m' n := by
  rcases ite_eq h with ⟨_, h⟩ | ⟨_, h⟩
  · cases h
  · obtain ⟨m', hm', h⟩ := bind_ok h
    cases h
    exact ⟨m', hm', rfl⟩

theorem mkFieldT_WT {t : DataType} {m e : Expr} {n : String} (h : mkFieldT t m n = .ok e) (hm : WT m)
    (ht : t ≠ 0 ∧ sub t T.ACCESS) : WT e := by
  obtain ⟨m', hm', rfl⟩ := mkFieldT_ok h
  exact ⟨ht.1, ht.2, castE_WT hm' hm, (castE_sub hm').1⟩

theorem mkIndexT_ok {t : DataType} {a i e : Expr} (h : mkIndexT t a i = .ok e) :
    ∃ a' i', castE a T.ARRAY = .ok a' ∧ castE i T.NUMBER = .ok i' ∧ e = .index t a' i' := by
  rcases ite_eq h with ⟨_, h⟩ | ⟨_, h⟩
  · cases h
  · obtain ⟨a', ha', h⟩ := bind_ok h
    obtain ⟨i', hi', h⟩ := bind_ok h
    cases h
    exact ⟨a', i', ha', hi', rfl⟩

theorem mkIndexT_WT {t : DataType} {a i e : Expr} (h : mkIndexT t a i = .ok e) (ha : WT a) (hi : WT i)
    (ht : t ≠ 0 ∧ sub t T.ACCESS) : WT e := by
  obtain ⟨a', i', ha', hi', rfl⟩ := mkIndexT_ok h
  exact ⟨ht.1, ht.2, castE_WT ha' ha, castE_WT hi' hi, (castE_sub ha').1, (castE_sub hi').1⟩

theorem castList_WT : ∀ {vs vs' : ExprList}, castList T.PRIMITIVE vs = .ok vs' → WTList vs → WTSet vs'
  | .nil, vs', h, _ => by cases h; trivial
  | .cons e es, vs', h, hw => by
      obtain ⟨e', he', h⟩ := bind_ok h
      obtain ⟨es', hes', h⟩ := bind_ok h
      cases h
      exact ⟨castE_WT he' hw.1, (castE_sub he').1, castList_WT hes' hw.2⟩

theorem WTSet_WTList : ∀ {vs : ExprList}, WTSet vs → WTList vs
  | .nil, _ => trivial
  | .cons _ _, h => ⟨h.1, WTSet_WTList h.2.2⟩

theorem mkSet_ok {vs : ExprList} {e : Expr} (h : mkSet vs = .ok e) :
    ∃ vs', castList T.PRIMITIVE vs = .ok vs' ∧ e = .set T.SET vs' := by
  obtain ⟨vs', hvs', h⟩ := bind_ok h
  cases h
  exact ⟨vs', hvs', rfl⟩

theorem mkSet_WT {vs : ExprList} {e : Expr} (h : mkSet vs = .ok e) (hw : WTList vs) : WT e := by
  obtain ⟨vs', hvs', rfl⟩ := mkSet_ok h
  exact ⟨rfl, castList_WT hvs' hw⟩

theorem mkRange_ok {lo hi e : Expr} {a b : Bool} (h : mkRange lo hi a b = .ok e) :
    ∃ lo' hi', castE lo T.NUMBER = .ok lo' ∧ castE hi T.NUMBER = .ok hi' ∧ e = .range T.RANGE lo' hi' a b := by
  obtain ⟨lo', hlo', h⟩ := bind_ok h
  obtain ⟨hi', hhi', h⟩ := bind_ok h
  cases h
  exact ⟨lo', hi', hlo', hhi', rfl⟩

theorem mkRange_WT {lo hi e : Expr} {a b : Bool} (h : mkRange lo hi a b = .ok e) (hlo : WT lo) (hhi : WT hi) : WT e := by
  obtain ⟨lo', hi', hlo', hhi', rfl⟩ := mkRange_ok h
  exact ⟨rfl, castE_WT hlo' hlo, castE_WT hhi' hhi, (castE_sub hlo').1, (castE_sub hhi').1⟩

theorem quantBodyCheck_spec (x : String) (t : DataType) : ∀ (l : List Expr) (used n : Nat),
    quantBodyCheck x t l used = .ok n →
      (∀ v ∈ l, bindsName x v = false ∧ (isVarNamed x v = true → v.ty &&& t ≠ 0)) ∧
      n = used + (l.filter (isVarNamed x)).length := by
  intro l
  induction l with
  | nil => intro used n h; cases h; exact ⟨nofun, rfl⟩
  | cons e rest ih =>
    intro used n h
    have step : ∀ (used' : Nat), quantBodyCheck x t rest used' = .ok n → bindsName x e = false →
        (isVarNamed x e = true → e.ty &&& t ≠ 0) → used' = used + (if isVarNamed x e = true then 1 else 0) →
        (∀ v ∈ e :: rest, bindsName x v = false ∧ (isVarNamed x v = true → v.ty &&& t ≠ 0)) ∧
        n = used + ((e :: rest).filter (isVarNamed x)).length := by
      intro used' h' hb hc hu
      obtain ⟨h1, h2⟩ := ih _ _ h'
      refine ⟨fun v hv => ?_, ?_⟩
      · rcases List.mem_cons.1 hv with rfl | hv'
        · exact ⟨hb, hc⟩
        · exact h1 v hv'
      · rw [← List.countP_eq_length_filter, List.countP_cons, List.countP_eq_length_filter, h2, hu]; omega
    -- `quantBodyCheck` tests `y == x` where `isVarNamed x` and `bindsName x` test `x == y`: `BEq.comm` turns one into the other
    cases e with
    | quant ty q y d b =>
      rcases ite_eq h with ⟨_, h⟩ | ⟨hne, h⟩
      · cases h
      · refine step used h ?_ nofun rfl
        show (x == y) = false
        rw [BEq.comm, Bool.eq_false_iff.2 hne]
    | var ty y =>
      have hv : isVarNamed x (.var ty y) = (y == x) := BEq.comm
      rw [hv] at step
      rcases ite_eq h with ⟨heq, h⟩ | ⟨hne, h⟩
      · rcases ite_eq h with ⟨_, h⟩ | ⟨hc, h⟩
        · cases h
        · exact step (used + 1) h rfl (fun _ => hc) (by rw [if_pos heq])
      · exact step used h rfl (fun h => absurd h hne) (by rw [if_neg hne]; rfl)
    | _ => exact step used h rfl nofun rfl

theorem quantBodyCheck_ok (x : String) (t : DataType) : ∀ (l : List Expr) (used n : Nat),
    quantBodyCheck x t l used = .ok n → ∀ v ∈ l, isVarNamed x v = true → v.ty &&& t ≠ 0 :=
  fun l used n h v hv => ((quantBodyCheck_spec x t l used n h).1 v hv).2

theorem mkQuant_ok {q : Quant} {x : String} {dom body e : Expr} (h : mkQuant q x dom body = .ok e) :
    ∃ d b used, castE dom T.COMPOUND = .ok d ∧ castE body T.BOOL = .ok b ∧ d.preorder.any (isVarNamed x) = false ∧
      quantBodyCheck x (domainElemType d) b.preorder 0 = .ok used ∧ used ≠ 0 ∧ e = .quant T.BOOL q x d b := by
  obtain ⟨d, hd, h⟩ := bind_ok h
  obtain ⟨b, hb, h⟩ := bind_ok h
  rcases ite_eq h with ⟨_, h⟩ | ⟨hdom, h⟩
  · cases h
  · obtain ⟨used, hused, h⟩ := bind_ok h
    rcases ite_eq h with ⟨_, h⟩ | ⟨hne, h⟩ <;> cases h
    exact ⟨d, b, used, hd, hb, Bool.eq_false_iff.2 hdom, hused, hne, rfl⟩

theorem mkQuant_WT {q : Quant} {x : String} {dom body e : Expr} (h : mkQuant q x dom body = .ok e)
    (hd : WT dom) (hb : WT body) : WT e := by
  obtain ⟨d, b, used, hd', hb', _, hused, _, rfl⟩ := mkQuant_ok h
  exact ⟨rfl, castE_WT hd' hd, castE_WT hb' hb, (castE_sub hd').1, (castE_sub hb').1, quantBodyCheck_ok x _ _ _ _ hused⟩

/-! ## how the constructors fail -/

theorem castE_error {e : Expr} {t : DataType} {x : Err} (h : castE e t = .error x) : x = .type := by
  rcases ite_eq h with ⟨_, h⟩ | ⟨_, h⟩
  · exact (Except.error.inj h).symm
  · rcases ite_eq h with ⟨_, h⟩ | ⟨_, h⟩ <;> cases h

theorem castList_error : ∀ {t : DataType} {vs : ExprList} {x : Err}, castList t vs = .error x → x = .type
  | _, .nil, _, h => by cases h
  | _, .cons _ es, _, h =>
      bind_err_class (· = .type) castE_error (fun _ => bind_err_class (· = .type) (castList_error (vs := es)) (fun _ h => by cases h)) h

theorem castArgs_error : ∀ {args : ExprList} {ts : List DataType} {x : Err}, castArgs args ts = .error x → x = .type
  | .nil, ts, _, h => by cases ts <;> cases h
  | .cons .., [], _, h => by cases h
  | .cons _ es, _ :: ts, _, h =>
      bind_err_class (· = .type) castE_error (fun _ => bind_err_class (· = .type) (castArgs_error (args := es) (ts := ts)) (fun _ h => by cases h)) h

theorem mkUn_error {op : String} {a : Expr} {x : Err} (h : mkUn op a = .error x) : findUn op = none ∧ x = .value ∨ x = .type := by
  unfold mkUn at h
  cases hd : findUn op with
  | none => rw [hd] at h; exact .inl ⟨rfl, (Except.error.inj h).symm⟩
  | some d => rw [hd] at h; exact .inr (bind_err_class (· = .type) castE_error (fun _ h => by cases h) h)

theorem mkBin_error {op : String} {a b : Expr} {x : Err} (h : mkBin op a b = .error x) : findBin op = none ∧ x = .value ∨ x = .type := by
  unfold mkBin at h
  cases hd : findBin op with
  | none => rw [hd] at h; exact .inl ⟨rfl, (Except.error.inj h).symm⟩
  | some d =>
    rw [hd] at h
    refine .inr (bind_err_class (· = .type) castE_error (fun _ => bind_err_class (· = .type) castE_error fun _ h => ?_) h)
    rcases ite_eq h with ⟨_, h⟩ | ⟨_, h⟩
    · exact bind_err_class (· = .type) castE_error (fun _ => bind_err_class (· = .type) castE_error (fun _ h => by cases h)) h
    · cases h

theorem mkCall_error {f : String} {args : ExprList} {x : Err} (h : mkCall f args = .error x) : findFun f = none ∧ x = .value ∨ x = .type := by
  unfold mkCall at h
  cases hd : findFun f with
  | none => rw [hd] at h; exact .inl ⟨rfl, (Except.error.inj h).symm⟩
  | some d =>
    simp only [hd] at h
    split at h
    · exact .inr (Except.error.inj h).symm
    · exact .inr (bind_err_class (· = .type) castArgs_error (fun _ h => by cases h) h)
    · cases h

theorem mkFieldT_error {t : DataType} {m : Expr} {n : String} {x : Err} (h : mkFieldT t m n = .error x) : x = .type := by
  rcases ite_eq h with ⟨_, h⟩ | ⟨_, h⟩
  · exact (Except.error.inj h).symm
  · exact bind_err_class (· = .type) castE_error (fun _ h => by cases h) h

theorem mkIndexT_error {t : DataType} {a i : Expr} {x : Err} (h : mkIndexT t a i = .error x) : x = .type := by
  rcases ite_eq h with ⟨_, h⟩ | ⟨_, h⟩
  · exact (Except.error.inj h).symm
  · exact bind_err_class (· = .type) castE_error (fun _ => bind_err_class (· = .type) castE_error (fun _ h => by cases h)) h

theorem mkSet_error {vs : ExprList} {x : Err} (h : mkSet vs = .error x) : x = .type :=
  bind_err_class (· = .type) castList_error (fun _ h => by cases h) h

theorem mkRange_error {lo hi : Expr} {a b : Bool} {x : Err} (h : mkRange lo hi a b = .error x) : x = .type :=
  bind_err_class (· = .type) castE_error (fun _ => bind_err_class (· = .type) castE_error (fun _ h => by cases h)) h

/-! ## `build` -/

/-- Induction over a successful run of `build`: `P` holds of every term and the tree returned for it as soon as every
    constructor passes it on from the trees built for the children to the tree it returns. -/
theorem build_induct {P : Raw → Expr → Prop} {PL : RawList → ExprList → Prop}
    (lit : ∀ tok v, P (.lit tok v) (.lit v.ty tok v))
    (this : P .this (.this T.MESSAGE))
    (var : ∀ x, P (.var x) (.var T.ITEM x))
    (set : ∀ {vs es e}, buildList vs = .ok es → PL vs es → mkSet es = .ok e → P (.set vs) e)
    (range : ∀ {lo hi lo' hi' a b e}, build lo = .ok lo' → build hi = .ok hi' → P lo lo' → P hi hi' →
      mkRange lo' hi' a b = .ok e → P (.range lo hi a b) e)
    (quant : ∀ {q x d b d' b' e}, build d = .ok d' → build b = .ok b' → P d d' → P b b' →
      mkQuant q x d' b' = .ok e → P (.quant q x d b) e)
    (un : ∀ {op a a' e}, build a = .ok a' → P a a' → mkUn op a' = .ok e → P (.un op a) e)
    (bin : ∀ {op a b a' b' e}, build a = .ok a' → build b = .ok b' → P a a' → P b b' →
      mkBin op a' b' = .ok e → P (.bin op a b) e)
    (call : ∀ {f args as e}, buildList args = .ok as → PL args as → mkCall f as = .ok e → P (.call f args) e)
    (field : ∀ {m n m' e}, build m = .ok m' → P m m' → mkField m' n = .ok e → P (.field m n) e)
    (index : ∀ {a i a' i' e}, build a = .ok a' → build i = .ok i' → P a a' → P i i' →
      mkIndex a' i' = .ok e → P (.index a i) e)
    (nil : PL .nil .nil)
    (cons : ∀ {r rs e es}, build r = .ok e → buildList rs = .ok es → P r e → PL rs es → PL (.cons r rs) (.cons e es)) :
    (∀ r e, build r = .ok e → P r e) ∧ (∀ rs es, buildList rs = .ok es → PL rs es) :=
  ⟨go, goL⟩
where
  go : ∀ r e, build r = .ok e → P r e
    | .lit tok v, e, h => by cases h; exact lit tok v
    | .this, e, h => by cases h; exact this
    | .var x, e, h => by cases h; exact var x
    | .set vs, e, h => by
        obtain ⟨es, hes, h⟩ := bind_ok h
        exact set hes (goL vs es hes) h
    | .range lo hi a b, e, h => by
        obtain ⟨lo', hlo, h⟩ := bind_ok h
        obtain ⟨hi', hhi, h⟩ := bind_ok h
        exact range hlo hhi (go lo lo' hlo) (go hi hi' hhi) h
    | .quant q x d b, e, h => by
        obtain ⟨d', hd, h⟩ := bind_ok h
        obtain ⟨b', hb, h⟩ := bind_ok h
        exact quant hd hb (go d d' hd) (go b b' hb) h
    | .un op a, e, h => by
        obtain ⟨a', ha, h⟩ := bind_ok h
        exact un ha (go a a' ha) h
    | .bin op a b, e, h => by
        obtain ⟨a', ha, h⟩ := bind_ok h
        obtain ⟨b', hb, h⟩ := bind_ok h
        exact bin ha hb (go a a' ha) (go b b' hb) h
    | .call f args, e, h => by
        obtain ⟨as, has, h⟩ := bind_ok h
        exact call has (goL args as has) h
    | .field m n, e, h => by
        obtain ⟨m', hm, h⟩ := bind_ok h
        exact field hm (go m m' hm) h
    | .index a i, e, h => by
        obtain ⟨a', ha, h⟩ := bind_ok h
        obtain ⟨i', hi, h⟩ := bind_ok h
        exact index ha hi (go a a' ha) (go i i' hi) h
  goL : ∀ rs es, buildList rs = .ok es → PL rs es
    | .nil, es, h => by cases h; exact nil
    | .cons r rs, es, h => by
        obtain ⟨e', he, h⟩ := bind_ok h
        obtain ⟨es', hes, h⟩ := bind_ok h
        cases h
        exact cons he hes (go r e' he) (goL rs es' hes)

theorem buildBoth_WT : (∀ r e, build r = .ok e → WT e) ∧ (∀ rs es, buildList rs = .ok es → WTList es) :=
  build_induct (P := fun _ e => WT e) (PL := fun _ es => WTList es)
    (lit := fun _ _ => rfl) (this := rfl) (var := fun _ => ⟨by decide, sub_refl _⟩)
    (set := fun _ hes h => mkSet_WT h hes)
    (range := fun _ _ hlo hhi h => mkRange_WT h hlo hhi)
    (quant := fun _ _ hd hb h => mkQuant_WT h hd hb)
    (un := fun _ ha h => mkUn_WT h ha)
    (bin := fun _ _ ha hb h => mkBin_WT h ha hb)
    (call := fun _ has h => mkCall_WT h has)
    (field := fun _ hm h => mkFieldT_WT h hm ⟨access_ne, sub_refl _⟩)
    (index := fun _ _ ha hi h => mkIndexT_WT h ha hi ⟨access_ne, sub_refl _⟩)
    (nil := trivial) (cons := fun _ _ he hes => ⟨he, hes⟩)

/-- **C03 (expression level)**: whatever `build` returns is well-typed -/
theorem build_WT : ∀ (r : Raw) (e : Expr), build r = .ok e → WT e := buildBoth_WT.1

theorem buildList_WT : ∀ (rs : RawList) (es : ExprList), buildList rs = .ok es → WTList es := buildBoth_WT.2

/-! ## `replace` -/

theorem ite_ok_elim {c : Prop} [Decidable c] {x z : Expr} {m : M Expr} {Q : Expr → Prop}
    (h : (if c then .ok x else m) = .ok z) (hx : Q x) (hm : m = .ok z → Q z) : Q z := by
  rcases ite_eq h with ⟨_, h⟩ | ⟨_, h⟩
  · cases h; exact hx
  · exact hm h

theorem rebuild_elim {α : Type} [DecidableEq α] {r : M α} {a : α} {e z : Expr} {mk : α → M Expr} {Q : Expr → Prop}
    (h : (r >>= fun a' => if a' = a then pure e else mk a') = .ok z) (hs : Q e)
    (hm : ∀ a', r = .ok a' → mk a' = .ok z → Q z) : Q z := by
  obtain ⟨a', ha', h⟩ := bind_ok h
  exact ite_ok_elim h hs (hm a' ha')

theorem rebuild2_elim {r1 r2 : M Expr} {a b e z : Expr} {mk : Expr → Expr → M Expr} {Q : Expr → Prop}
    (h : (r1 >>= fun a' => r2 >>= fun b' => if a' = a ∧ b' = b then pure e else mk a' b') = .ok z) (hs : Q e)
    (hm : ∀ a' b', r1 = .ok a' → r2 = .ok b' → mk a' b' = .ok z → Q z) : Q z := by
  obtain ⟨a', ha', h⟩ := bind_ok h
  obtain ⟨b', hb', h⟩ := bind_ok h
  exact ite_ok_elim h hs (hm a' b' ha' hb')

/-- Induction over a successful run of `replace` (`substE`) or of its capture-avoiding variant `substV`: a relation between
    a tree and what it is replaced by holds as soon as it holds between any tree and `other`, between any tree and itself,
    and between a parent and what its constructor rebuilds from replaced children. -/
theorem subst_induct {other : Expr} {P : Expr → Expr → Prop} {PL : ExprList → ExprList → Prop}
    (repl : ∀ e, P e other) (same : ∀ e, P e e)
    (set : ∀ {t vs vs' vs''}, PL vs vs' → castList T.PRIMITIVE vs' = .ok vs'' → P (.set t vs) (.set t vs''))
    (range : ∀ {t lo hi a b lo' hi' lo'' hi''}, P lo lo' → P hi hi' → castE lo' T.NUMBER = .ok lo'' →
      castE hi' T.NUMBER = .ok hi'' → P (.range t lo hi a b) (.range t lo'' hi'' a b))
    (quant : ∀ {t q x d b d' b' e'}, P d d' → P b b' → mkQuant q x d' b' = .ok e' → P (.quant t q x d b) e')
    (un : ∀ {t op a a' e'}, P a a' → mkUn op a' = .ok e' → P (.un t op a) e')
    (bin : ∀ {t op a b a' b' e'}, P a a' → P b b' → mkBin op a' b' = .ok e' → P (.bin t op a b) e')
    (call : ∀ {t f as as' e'}, PL as as' → mkCall f as' = .ok e' → P (.call t f as) e')
    (field : ∀ {t m n m' e'}, P m m' → mkFieldT t m' n = .ok e' → P (.field t m n) e')
    (index : ∀ {t a i a' i' e'}, P a a' → P i i' → mkIndexT t a' i' = .ok e' → P (.index t a i) e')
    (nil : PL .nil .nil)
    (cons : ∀ {e es e' es'}, P e e' → PL es es' → PL (.cons e es) (.cons e' es')) :
    (∀ test e e', substE test other e = .ok e' → P e e') ∧ (∀ test es es', substL test other es = .ok es' → PL es es') ∧
    (∀ a e e', substV a other e = .ok e' → P e e') ∧ (∀ a es es', substVL a other es = .ok es' → PL es es') :=
  ⟨go, goL, goV, goVL⟩
where
  go (test : Expr → Bool) : ∀ e e', substE test other e = .ok e' → P e e'
    | .lit .., e', h | .this .., e', h | .var .., e', h => by
        cases h
        split
        · exact repl _
        · exact same _
    | .set t vs, _, h => ite_ok_elim h (repl _) fun h => rebuild_elim h (same _) fun vs' hvs' h => by
        obtain ⟨vs'', hvs'', h⟩ := bind_ok h
        cases h
        exact set (goL test vs vs' hvs') hvs''
    | .range t lo hi _ _, _, h => ite_ok_elim h (repl _) fun h => rebuild2_elim h (same _) fun lo' hi' hlo' hhi' h => by
        obtain ⟨lo'', hlo'', h⟩ := bind_ok h
        obtain ⟨hi'', hhi'', h⟩ := bind_ok h
        cases h
        exact range (go test lo lo' hlo') (go test hi hi' hhi') hlo'' hhi''
    | .quant _ _ _ d b, _, h => ite_ok_elim h (repl _) fun h =>
        rebuild2_elim h (same _) fun d' b' hd' hb' => quant (go test d d' hd') (go test b b' hb')
    | .un _ _ u, _, h => ite_ok_elim h (repl _) fun h => rebuild_elim h (same _) fun u' hu' => un (go test u u' hu')
    | .bin _ _ u v, _, h => ite_ok_elim h (repl _) fun h =>
        rebuild2_elim h (same _) fun u' v' hu' hv' => bin (go test u u' hu') (go test v v' hv')
    | .call _ _ as, _, h => ite_ok_elim h (repl _) fun h => rebuild_elim h (same _) fun as' has' => call (goL test as as' has')
    | .field _ m _, _, h => ite_ok_elim h (repl _) fun h => rebuild_elim h (same _) fun m' hm' => field (go test m m' hm')
    | .index _ u i, _, h => ite_ok_elim h (repl _) fun h =>
        rebuild2_elim h (same _) fun u' i' hu' hi' => index (go test u u' hu') (go test i i' hi')
  goL (test : Expr → Bool) : ∀ es es', substL test other es = .ok es' → PL es es'
    | .nil, es', h => by cases h; exact nil
    | .cons e es, es', h => by
        obtain ⟨e', he', h⟩ := bind_ok h
        obtain ⟨es'', hes', h⟩ := bind_ok h
        cases h
        exact cons (go test e e' he') (goL test es es'' hes')
  goV (a : String) : ∀ e e', substV a other e = .ok e' → P e e'
    | .lit .., e', h | .this .., e', h => by cases h; exact same _
    | .var .., e', h => by
        cases h
        split
        · exact repl _
        · exact same _
    | .set t vs, _, h => rebuild_elim h (same _) fun vs' hvs' h => by
        obtain ⟨vs'', hvs'', h⟩ := bind_ok h
        cases h
        exact set (goVL a vs vs' hvs') hvs''
    | .range t lo hi _ _, _, h => rebuild2_elim h (same _) fun lo' hi' hlo' hhi' h => by
        obtain ⟨lo'', hlo'', h⟩ := bind_ok h
        obtain ⟨hi'', hhi'', h⟩ := bind_ok h
        cases h
        exact range (goV a lo lo' hlo') (goV a hi hi' hhi') hlo'' hhi''
    | .quant _ _ _ d b, _, h => ite_ok_elim h (same _) fun h =>
        rebuild2_elim h (same _) fun d' b' hd' hb' => quant (goV a d d' hd') (goV a b b' hb')
    | .un _ _ u, _, h => rebuild_elim h (same _) fun u' hu' => un (goV a u u' hu')
    | .bin _ _ u v, _, h => rebuild2_elim h (same _) fun u' v' hu' hv' => bin (goV a u u' hu') (goV a v v' hv')
    | .call _ _ as, _, h => rebuild_elim h (same _) fun as' has' => call (goVL a as as' has')
    | .field _ m _, _, h => rebuild_elim h (same _) fun m' hm' => field (goV a m m' hm')
    | .index _ u i, _, h => rebuild2_elim h (same _) fun u' i' hu' hi' => index (goV a u u' hu') (goV a i i' hi')
  goVL (a : String) : ∀ es es', substVL a other es = .ok es' → PL es es'
    | .nil, es', h => by cases h; exact nil
    | .cons e es, es', h => by
        obtain ⟨e', he', h⟩ := bind_ok h
        obtain ⟨es'', hes', h⟩ := bind_ok h
        cases h
        exact cons (goV a e e' he') (goVL a es es'' hes')

theorem isBase_sub_any {t : DataType} (h : isBase t = true) : sub t T.ANY := by
  rcases isBase_cases h with rfl | rfl | rfl | rfl | rfl | rfl | rfl <;> decide

/-- **C03**: every node of a well-typed tree carries a non-empty type set within what its kind allows -/
theorem WT_within_kind (e : Expr) (h : WT e) : e.ty ≠ 0 ∧ sub e.ty (kindDefault e) := by
  refine ⟨WT_ne e h, ?_⟩
  cases e with
  | lit t _ v =>
      have : t = v.ty := h
      subst this; cases v <;> simp only [Expr.ty, kindDefault, LitVal.ty] <;> decide
  | this t => exact (show t = T.MESSAGE from h) ▸ sub_refl _
  | var t _ => exact h.2
  | set t _ => exact (show t = T.SET from h.1) ▸ sub_refl _
  | range t _ _ _ _ => exact (show t = T.RANGE from h.1) ▸ sub_refl _
  | quant t _ _ _ _ => exact (show t = T.BOOL from h.1) ▸ sub_refl _
  | un t op a =>
      obtain ⟨d, hd, rfl, _⟩ := h
      exact isBase_sub_any (G2_un_results d (List.mem_of_find?_eq_some hd)).1
  | bin t op a b =>
      obtain ⟨d, hd, rfl, _⟩ := h
      exact isBase_sub_any (G2_bin_results d (List.mem_of_find?_eq_some hd)).1
  | call t f args =>
      obtain ⟨d, hd, rfl, _⟩ := h
      exact isBase_sub_any (G3_fun_results d (List.mem_of_find?_eq_some hd))
  | field t _ _ => exact h.2.1
  | index t _ _ => exact h.2.1

/-! ## predicate level -/

theorem mkPred_ok {e : Expr} {p : Pred} (h : mkPred e = .ok p) :
    ∃ e', castE e T.BOOL = .ok e' ∧ refsOk e' = true ∧ p = .expr e' := by
  obtain ⟨e', he', h⟩ := bind_ok h
  rcases ite_eq h with ⟨hr, h⟩ | ⟨_, h⟩ <;> cases h
  exact ⟨e', he', hr, rfl⟩

theorem predFromExpr_ok {e : Expr} {p : Pred} (h : predFromExpr e = .ok p) :
    (∃ t tok b, e = .lit t tok (.bool b) ∧ p = if b then .vtrue else .vfalse) ∨ mkPred e = .ok p := by
  unfold predFromExpr at h
  rcases ite_eq h with ⟨_, h⟩ | ⟨_, h⟩
  · cases h
  · split at h
    · cases h; exact .inl ⟨_, _, _, rfl, rfl⟩
    · cases h
    · exact .inr h

theorem mkPred_WT {e : Expr} {p : Pred} (h : mkPred e = .ok p) (hw : WT e) : WTPred p := by
  obtain ⟨e', he', hr, rfl⟩ := mkPred_ok h
  refine ⟨castE_WT he' hw, ?_, hr⟩
  -- the root is exactly BOOL: a non-empty subset of the atom BOOL
  obtain ⟨hty, hne, _⟩ := castE_ok he'
  rcases atomic_bool.2 e.ty with h0 | h1
  · rw [Nat.and_comm] at h0; exact absurd (hty ▸ h0) hne
  · rw [hty, Nat.and_comm]; exact h1

/-- **C03 (predicate level)**: a predicate's root is exactly boolean and same-printed references share a type -/
theorem predFromExpr_WT {e : Expr} {p : Pred} (h : predFromExpr e = .ok p) (hw : WT e) : WTPred p := by
  rcases predFromExpr_ok h with ⟨_, _, _, _, rfl⟩ | h
  · split <;> trivial
  · exact mkPred_WT h hw

/-- **C03**: the parser's predicate entry point (`build` then `predicate_from_expression`) hands out well-typed predicates -/
theorem parse_predicate_WT (r : Raw) (p : Pred) (h : (build r >>= predFromExpr) = .ok p) : WTPred p := by
  obtain ⟨e, he, h⟩ := bind_ok h
  exact predFromExpr_WT h (build_WT r e he)


/-! ## the executable decider used to judge the implementation's ASTs agrees with the invariant -/
theorem subB_iff (a b : DataType) : subB a b = true ↔ sub a b := by simp [subB, sub]
theorem argsInsideB_iff (tys : List DataType) (s : Sig) : argsInsideB tys s = true ↔ ArgsInside tys s := by
  simp [argsInsideB, ArgsInside, subB_iff]

/- `wtB` and `WT` unfold by definition at a constructor: `show` exposes the conjunction; `simp` with their equation lemmas
   is slow. -/
mutual
theorem wtB_iff : ∀ e : Expr, wtB e = true ↔ WT e
  | .lit t _ v => beq_iff_eq
  | .this t => beq_iff_eq
  | .var t _ => by
      show (_ && _) = true ↔ _ ∧ _
      rw [Bool.and_eq_true, bne_iff_ne, subB_iff]
  | .set t vs => by
      show (_ && _) = true ↔ _ ∧ _
      rw [Bool.and_eq_true, beq_iff_eq, wtSetB_iff vs]
  | .range t lo hi _ _ => by
      show (_ && _ && _ && _ && _) = true ↔ _ ∧ _ ∧ _ ∧ _ ∧ _
      simp only [Bool.and_eq_true, beq_iff_eq, wtB_iff lo, wtB_iff hi, subB_iff, and_assoc]
  | .quant t _ x d b => by
      show (_ && _ && _ && _ && _ && _) = true ↔ _ ∧ _ ∧ _ ∧ _ ∧ _ ∧ _
      simp [wtB_iff d, wtB_iff b, subB_iff, and_assoc, Decidable.or_iff_not_imp_left]
  | .un t op a => by
      simp only [wtB, WT]
      cases findUn op <;> simp [wtB_iff a, subB_iff, and_assoc]
  | .bin t op a b => by
      simp only [wtB, WT]
      cases findBin op <;> simp [wtB_iff a, wtB_iff b, subB_iff, and_assoc, Decidable.or_iff_not_imp_left]
  | .call t f args => by
      simp only [wtB, WT]
      cases findFun f <;> simp [wtListB_iff args, argsInsideB_iff, and_assoc]
  | .field t m _ => by
      show (_ && _ && _ && _) = true ↔ _ ∧ _ ∧ _ ∧ _
      simp only [Bool.and_eq_true, bne_iff_ne, wtB_iff m, subB_iff, and_assoc]
  | .index t a i => by
      show (_ && _ && _ && _ && _ && _) = true ↔ _ ∧ _ ∧ _ ∧ _ ∧ _ ∧ _
      simp only [Bool.and_eq_true, bne_iff_ne, wtB_iff a, wtB_iff i, subB_iff, and_assoc]
theorem wtSetB_iff : ∀ es : ExprList, wtSetB es = true ↔ WTSet es
  | .nil => iff_of_true rfl trivial
  | .cons e es => by
      show (_ && _ && _) = true ↔ _ ∧ _ ∧ _
      simp only [Bool.and_eq_true, wtB_iff e, wtSetB_iff es, subB_iff, and_assoc]
theorem wtListB_iff : ∀ es : ExprList, wtListB es = true ↔ WTList es
  | .nil => iff_of_true rfl trivial
  | .cons e es => by
      show (_ && _) = true ↔ _ ∧ _
      rw [Bool.and_eq_true, wtB_iff e, wtListB_iff es]
end

theorem wtPredB_iff (p : Pred) : wtPredB p = true ↔ WTPred p := by
  cases p <;> simp [wtPredB, WTPred, wtB_iff, and_assoc]

/-! ## the call clause, spelled out (the statement's "operand inside the parameter type" for function calls) -/

/-- **C03**: in a well-typed tree every argument of every call lies inside the parameter type of an overload of
    matching arity -/
theorem WT_call_args_inside {t : DataType} {f : String} {args : ExprList} (h : WT (.call t f args)) :
    ∃ d, findFun f = some d ∧ ∃ s ∈ d.overloads, ArityOk s args.tys.length ∧ ArgsInside args.tys s := by
  obtain ⟨d, hd, _, _, h⟩ := h
  exact ⟨d, hd, h⟩

/-- witness for the repaired call clause: `abs(x)` narrows `x` to NUMBER -/
def absX : Raw := .call "abs" (.cons (.field .this "x") .nil)
theorem call_args_narrowed : build absX = .ok (.call T.NUMBER "abs" (.cons (.field T.NUMBER (.this T.MESSAGE) "x") .nil)) := by rfl

-- non-vacuity: a predicate with a quantifier, an alias and a call is built and satisfies the invariant
def sampleC03 : Raw :=
  .bin "and" (.quant .all "i" (.field .this "xs") (.bin ">" (.var "i") (.field (.var "A") "y")))
             (.bin "=" (.call "len" (.cons (.field .this "xs") .nil)) (.lit "3" (.int 3)))
example : ∃ p, (build sampleC03 >>= predFromExpr) = .ok p ∧ WTPred p := by
  obtain ⟨p, hp⟩ : ∃ p, (build sampleC03 >>= predFromExpr) = .ok p := ⟨_, rfl⟩
  exact ⟨p, hp, parse_predicate_WT _ _ hp⟩

end Hpl
