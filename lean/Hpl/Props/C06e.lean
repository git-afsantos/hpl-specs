import Hpl.Props.C06d
import Hpl.Spec.PrintChars
/-!
# C06 — the printed text of an expression tree is scanned to the printed token sequence

`Raw.chars` is the text `__str__` writes for a tree (`Expr.print` on the typed tree, see `print_chars`); `lex_printed`: the scanner
turns it into `Raw.toks` up to the keys the grammar reads — for every printable tree whose literal tokens and variable names are
themselves scanned as one token (`Raw.lexOk`).
-/
namespace Hpl

/-- what may follow a reference chain: anything that does not continue a name and is not `!` (which would glue to `]`) -/
def RefNext (rest : List Char) : Prop := ∀ x, rest.head? = some x → isIdChar x = false ∧ x ≠ '!'

theorem Delim.refNext {rest : List Char} (h : Delim rest) : RefNext rest := h.all (by decide)

/-- a literal token is scanned as one token when followed by a delimiter -/
def LitLex (tok : String) (v : LitVal) : Prop :=
  ∀ d, d ≠ 0 → Lx tok.toList d true [tokKey (litTok tok v)] d false Delim

mutual
def Raw.lexOk : Raw → Prop
  | .lit tok v => LitLex tok v
  | .this => True
  | .var x => isCName x = true
  | .set vs => RawList.lexOkL vs
  | .range lo hi _ _ => lo.lexOk ∧ hi.lexOk
  | .quant _ _ d b => d.lexOk ∧ b.lexOk
  | .un _ a => a.lexOk
  | .bin _ a b => a.lexOk ∧ b.lexOk
  | .call _ as => RawList.lexOkL as
  | .field m _ => m.lexOk
  | .index a i => a.lexOk ∧ i.lexOk
def RawList.lexOkL : RawList → Prop
  | .nil => True
  | .cons e es => e.lexOk ∧ RawList.lexOkL es
end

@[simp] theorem tokKey_symT (s : String) : tokKey (symT s) = (.sym, s, false) := rfl
@[simp] theorem tokKey_wordT (s : String) : tokKey (wordT s) = (.word, s, false) := rfl
@[simp] theorem tokKey_varT (s : String) : tokKey (mkTok .var s) = (.var, s, false) := rfl

/-- a one-character symbol that starts no two-character symbol -/
theorem lx_c (c : Char) (d : Nat) (hd : d ≠ 0) (hc : c ∈ ['(', ')', '[', ',', ':', '=', '+', '-', '/']) :
    Lx [c] d false [(.sym, String.ofList [c], false)] d true (fun _ => True) := by
  have all : ∀ x ∈ ['(', ')', '[', ',', ':', '=', '+', '-', '/'],
      x ∈ ['(', ')', '[', ']', ',', ':', '=', '<', '>', '+', '-', '*', '/'] ∧ pairOf x = none := by decide
  exact (lx_sym1 c d hd (all c hc).1).weakenP (fun _ _ p hp => by rw [(all c hc).2] at hp; cases hp)

theorem lx_rb (d : Nat) (hd : d ≠ 0) :
    Lx [']'] d false [(.sym, "]", false)] d true (fun rest => ∀ x, rest.head? = some x → x ≠ '!') :=
  (lx_sym1 ']' d hd (by decide)).weakenP (fun rest hr p hp hx => hr p hx (Option.some.inj hp).symm)

theorem Lx.afterOpen {cs : List Char} {d d' : Nat} {rq e : Bool} {k : List Key} {P : List Char → Prop} (hd : d ≠ 0)
    (h : Lx cs d rq k d' e P) : Lx (['('] ++ cs) d false ([(.sym, "(", false)] ++ k) d' e P :=
  (lx_c '(' d hd (by decide)).comp h (Bool.or_true _) (fun _ _ => trivial)

theorem Lx.thenClose {cs : List Char} {d d' : Nat} {rq e : Bool} {k : List Key} (hd : d' ≠ 0) (h : Lx cs d rq k d' e Delim) :
    Lx (cs ++ [')']) d rq (k ++ [(.sym, ")", false)]) d' true (fun _ => True) :=
  h.comp (lx_c ')' d' hd (by decide)) rfl (fun _ _ => delim_cons (by decide))

/-- what follows the printed form of `r` -/
def Next (r : Raw) : List Char → Prop := if r.isRef = true then RefNext else Delim

theorem next_of_delim (r : Raw) {rest : List Char} (h : Delim rest) : Next r rest := by
  unfold Next; split
  · exact h.refNext
  · exact h

theorem Lx.delim {r : Raw} {cs : List Char} {d d' : Nat} {rq e : Bool} {k : List Key} (h : Lx cs d rq k d' e (Next r)) :
    Lx cs d rq k d' e Delim := h.weakenP (fun _ hr => next_of_delim r hr)

theorem lx_nil (d : Nat) (r : Bool) (P : List Char → Prop) : Lx [] d r [] d false P := by
  intro rest _ g aw acc _
  exact ⟨0, [], g, aw, by simp, (fun h => by cases h), rfl, fun f => by simp⟩

theorem lx_ropen (ex : Bool) (d : Nat) (hd : d ≠ 0) :
    Lx (if ex then ['!', '['] else ['[']) d false [(.sym, if ex then "![" else "[", false)] d true (fun _ => True) := by
  cases ex
  · exact lx_c '[' d hd (by decide)
  · exact lx_sym2 '!' '[' d hd (by decide)

theorem lx_rclose (ex : Bool) (d : Nat) (hd : d ≠ 0) :
    Lx (if ex then [']', '!'] else [']']) d false [(.sym, if ex then "]!" else "]", false)] d true
      (fun rest => ∀ x, rest.head? = some x → x ≠ '!') := by
  cases ex
  · exact lx_rb d hd
  · exact (lx_sym2 ']' '!' d hd (by decide)).weakenP (fun _ _ => trivial)

theorem delim_rclose (ex : Bool) (rest : List Char) : Delim ((if ex then [']', '!'] else [']']) ++ rest) := by
  cases ex <;> exact delim_cons (by decide)

theorem quantWord_cname (q : Quant) : isCName (match q with | .all => "forall" | .some => "exists") = true := by cases q <;> decide

theorem chars_field {m : Raw} (n : String) (hm : m.isRef = true) : (Raw.field m n).chars = (m.chars ++ ['.']) ++ n.toList := by
  cases m with
  | this => cases hm
  | _ => rfl

theorem Delim.notBang {rest : List Char} (h : Delim rest) : ∀ x, rest.head? = some x → x ≠ '!' := fun x hx => (h.refNext x hx).2

theorem notId_of_cons {c : Char} {rest : List Char} (hc : isIdChar c = false) : ∀ x, (c :: rest).head? = some x → isIdChar x = false :=
  fun _ hx => by cases hx; exact hc

theorem refNext_cons {c : Char} {rest : List Char} (hc : isIdChar c = false) (hb : c ≠ '!') : RefNext (c :: rest) :=
  fun _ hx => by cases hx; exact ⟨hc, hb⟩

/-- a field access on a (non-`this`) reference chain, given the scan of the chain -/
theorem lexField (m : Raw) (n : String) (hm : m.isRef = true) (hp : (Raw.field m n).printable = true)
    (ihm : Lx m.chars d true (m.toks.map tokKey) d false (Next m)) (hd : d ≠ 0) :
    Lx (Raw.field m n).chars d true ((Raw.field m n).toks.map tokKey) d false (Next (.field m n)) := by
  have hn := (printable_field hm hp).1
  obtain ⟨c, w, hnl, hc, hw⟩ := isCName_cons hn
  simp only [Next, hm, if_true] at ihm
  have h := Lx.comp (Lx.comp ihm (lx_dot d) rfl (fun rest _ => refNext_cons (by decide) (by decide))) (lx_wordS n d hd hn) rfl
    (fun rest _ x hx => by rw [hnl] at hx; simp only [List.cons_append, List.head?_cons, Option.some.injEq] at hx; subst hx; exact idStart_not_digit _ hc)
  rw [chars_field n hm, toks_field n hm]
  have hr : (Raw.field m n).isRef = true := by
    cases m with
    | this => rfl
    | _ => exact hm
  refine (h.weakenP (P' := Next (.field m n)) (fun rest hr' x hx => ?_)).keys ?_
  · simp only [Next, hr, if_true] at hr'; exact (hr' x hx).1
  · simp

mutual
theorem lexR : ∀ (r : Raw), r.printable = true → r.lexOk → ∀ d, d ≠ 0 →
    Lx r.chars d true (r.toks.map tokKey) d false (Next r)
  | .lit tok v, _, hl, d, hd => by
      have h := hl d hd
      simp only [Raw.chars, Raw.toks, List.map_cons, List.map_nil]
      exact h.weakenP (fun rest hr => by simpa [Next, Raw.isRef] using hr)
  | .this, hp, _, _, _ => by simp [Raw.printable] at hp
  | .var x, _, hl, d, _ =>
      (lx_var x d hl).weaken (P' := Next (.var x)) (fun _ hr y hy => (hr y hy).1)
  | .bin op a b, hp, hl, d, hd => by
      simp only [Raw.printable, Bool.and_eq_true] at hp
      obtain ⟨⟨ho, hpa⟩, hpb⟩ := hp
      obtain ⟨j, hj⟩ := Option.isSome_iff_exists.mp ho
      have iha := (lexR a hpa hl.1 d hd).delim
      have ihb := (lexR b hpb hl.2 d hd).delim
      have h := (iha.infix (lx_op hj d hd) (ihb.thenClose hd) (fun _ => delim_cons (by decide))).afterOpen hd
      simp only [Raw.chars, Raw.toks]
      exact (h.weaken (fun _ _ => trivial)).keys (by simp)
  | .un op a, hp, hl, d, hd => by
      simp only [Raw.printable, Bool.and_eq_true, Bool.or_eq_true, beq_iff_eq] at hp
      obtain ⟨ho, hpa⟩ := hp
      have iha := (lexR a hpa hl d hd).delim
      have tl := iha.thenClose hd
      rcases ho with rfl | rfl
      · have h := ((lx_kw "not" d (by decide)).afterWord tl).afterOpen hd
        simp only [Raw.chars, Raw.toks, beq_self_eq_true, if_true, List.append_assoc]
        exact (h.weaken (fun _ _ => trivial)).keys (by simp)
      · have h := ((lx_c '-' d hd (by decide)).comp tl rfl (fun _ _ => trivial)).afterOpen hd
        simp only [Raw.chars, Raw.toks]
        have e1 : (("-" : String) == "not") = false := by decide
        have e2 : ("-" : String).toList = ['-'] := by decide
        simp only [e1, e2, Bool.false_eq_true, if_false]
        exact (h.weaken (fun _ _ => trivial)).keys (by simp)
  | .quant q x dm b, hp, hl, d, hd => by
      simp only [Raw.printable, Bool.and_eq_true] at hp
      obtain ⟨⟨⟨hx, hpd⟩, _⟩, hpb⟩ := hp
      have ihd := (lexR dm hpd hl.1 d hd).delim
      have ihb := (lexR b hpb hl.2 d hd).delim
      have h := ((lx_kw _ d (quantWord_cname q)).afterWord ((lx_kw x d hx).afterWord ((lx_kw "in" d (by decide)).afterWord
        (ihd.comp ((lx_c ':' d hd (by decide)).comp ((lx_space d).comp (ihb.thenClose hd)
          rfl (fun _ _ => trivial)) rfl (fun _ _ => trivial)) rfl (fun _ _ => delim_cons (by decide)))))).afterOpen hd
      simp only [Raw.chars, Raw.toks]
      refine (h.weaken (P' := Next (.quant q x dm b)) (fun _ _ => trivial)).keys ?_
      cases q <;> simp
  | .range lo hi exLo exHi, hp, hl, d, hd => by
      simp only [Raw.printable, Bool.and_eq_true] at hp
      have ihl := (lexR lo hp.1 hl.1 d hd).delim
      have ihh := (lexR hi hp.2 hl.2 d hd).delim
      have h := (lx_ropen exLo d hd).comp (ihl.infix (lx_kw "to" d (by decide))
        (ihh.comp (lx_rclose exHi d hd) rfl (fun rest _ => delim_rclose exHi rest)) (fun _ => delim_cons (by decide)))
        rfl (fun _ _ => trivial)
      simp only [Raw.chars, Raw.toks]
      refine (h.weaken (P' := Next (.range lo hi exLo exHi)) (fun rest hr => ?_)).keys ?_
      · simp only [Next, Raw.isRef] at hr; exact Delim.notBang (by simpa using hr)
      · simp
  | .set vs, hp, hl, d, hd => by
      simp only [Raw.printable, Bool.and_eq_true] at hp
      have ihs := lexL vs hp.2 hl (d + 1) (by omega)
      have h := Lx.comp (lx_open d) (Lx.comp ihs (lx_close d) rfl (fun rest _ => delim_cons (by decide))) rfl (fun _ _ => trivial)
      simp only [Raw.chars, Raw.toks]
      exact (h.weaken (fun _ _ => trivial)).keys (by simp)
  | .call f (.cons a .nil), hp, hl, d, hd => by
      simp only [Raw.printable, Bool.and_eq_true] at hp
      have hf : isCName f = true := by have := hp.1; simp only [isName, Bool.and_eq_true] at this; exact this.1
      have iha := (lexR a hp.2 hl.1 d hd).delim
      have h := (lx_wordS f d hd hf).comp ((iha.thenClose hd).afterOpen hd) rfl (fun rest _ => notId_of_cons (by decide))
      simp only [Raw.chars, Raw.toks, RawList.charsSep, RawList.toksSep]
      exact (h.weaken (fun _ _ => trivial)).keys (by simp)
  | .call f .nil, hp, _, _, _ => by simp [Raw.printable] at hp
  | .call f (.cons _ (.cons _ _)), hp, _, _, _ => by simp [Raw.printable] at hp
  | .field m n, hp, hl, d, hd => by
      by_cases hm : m = .this
      · subst hm
        have hn : isCName n = true := by have := printable_own hp; simp only [isName, Bool.and_eq_true] at this; exact this.1
        have h := lx_wordS n d hd hn
        simp only [Raw.chars, Raw.toks, List.nil_append, List.map_cons, List.map_nil, tokKey_wordT]
        exact h.weakenP (fun rest hr x hx => by simp only [Next, Raw.isRef] at hr; exact (hr x hx).1)
      · have hr := isRef_of_printable_field hm hp
        exact lexField m n hr hp (lexR m (printable_field hr hp).2 hl d hd) hd
  | .index a i, hp, hl, d, hd => by
      obtain ⟨har, hpa, hpi⟩ := printable_index hp
      have iha := lexR a hpa hl.1 d hd
      simp only [Next, har, if_true] at iha
      have ihi := (lexR i hpi hl.2 d hd).delim
      have h := Lx.comp iha (Lx.comp (lx_c '[' d hd (by decide)) (Lx.comp ihi (lx_rb d hd) rfl (fun rest _ => delim_cons (by decide)))
        rfl (fun _ _ => trivial)) rfl (fun rest _ => refNext_cons (by decide) (by decide))
      simp only [Raw.chars, Raw.toks]
      refine (h.weaken (P' := Next (.index a i)) (fun rest hr x hx => ?_)).keys ?_
      · simp only [Next, Raw.isRef, har, if_true] at hr; exact (hr x hx).2
      · simp
theorem lexL : ∀ (vs : RawList), RawList.printable vs = true → RawList.lexOkL vs → ∀ d, d ≠ 0 →
    Lx (RawList.charsSep vs) d true ((RawList.toksSep vs).map tokKey) d false Delim
  | .nil, _, _, d, _ => by simpa [RawList.charsSep, RawList.toksSep] using lx_nil d true Delim
  | .cons e .nil, hp, hl, d, hd => by
      simp only [RawList.printable, Bool.and_eq_true] at hp
      simpa [RawList.charsSep, RawList.toksSep] using (lexR e hp.1 hl.1 d hd).delim
  | .cons e (.cons e' es), hp, hl, d, hd => by
      have hp' := hp
      simp only [RawList.printable, Bool.and_eq_true] at hp
      have ihe := (lexR e hp.1 hl.1 d hd).delim
      have ihs := lexL (.cons e' es) (by simp only [RawList.printable, Bool.and_eq_true]; exact hp.2) hl.2 d hd
      have h := Lx.comp ihe (Lx.comp (lx_c ',' d hd (by decide)) (Lx.comp (lx_space d) ihs rfl (fun _ _ => trivial))
        rfl (fun _ _ => trivial)) rfl (fun rest _ => delim_cons (by decide))
      simp only [RawList.charsSep, RawList.toksSep]
      refine (h.weaken (P' := Delim) (fun _ hr => hr)).keys ?_
      simp
end

/-- from a scan of a whole text to the scanner's result -/
theorem scan_of_Lx {cs : List Char} {d d' : Nat} {keys : List Key} {ex : Bool} {P : List Char → Prop}
    (h : Lx cs d true keys d' ex P) (hP : P []) :
    ∃ ts, scan (cs.length + 1) cs d false false [] = .ok ts ∧ ts.map tokKey = keys := by
  obtain ⟨n, ts, g', aw', hn, _, hk, hs⟩ := h [] hP false false [] (fun _ => rfl)
  refine ⟨ts, ?_, hk⟩
  have := hs (cs.length - n + 1)
  rw [List.append_nil, show cs.length - n + 1 + n = cs.length + 1 by omega, scan_nil, List.append_nil, List.reverse_reverse] at this
  exact this

/-- **the scanner reads the printed text of a tree as the tree's printed tokens** (up to the keys the grammar reads) -/
theorem lex_printed (r : Raw) (hp : r.printable = true) (hl : r.lexOk) :
    ∃ ts, lexExpr (String.ofList r.chars) = .ok ts ∧ ts.map tokKey = r.toks.map tokKey := by
  obtain ⟨ts, hs, hk⟩ := scan_of_Lx (lexR r hp hl 1 (by decide)) (next_of_delim r (fun x hx => by cases hx))
  refine ⟨ts, ?_, hk⟩
  unfold lexExpr
  rw [String.toList_ofList]
  exact hs

/-- **text-level round trip at the grammar**: the printed text of a printable tree parses back to the tree -/
theorem parse_printed (r : Raw) (hp : r.printable = true) (hl : r.lexOk) :
    parseExpression (String.ofList r.chars) = build r := by
  obtain ⟨ts, hlex, hk⟩ := lex_printed r hp hl
  unfold parseExpression
  rw [hlex]
  simp only [roundtrip_of_scanned r hp ts hk]

end Hpl
