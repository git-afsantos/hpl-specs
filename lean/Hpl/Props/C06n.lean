import Hpl.Props.C06m
import Hpl.Props.C06h
/-!
# C06 — from text to text: `parse (print (parse s)) = parse s` for every text

The scanner's tokens are complete tokens of their own text (`lex_tokOk`: a NUMBER / ESCAPED_STRING token scanned out of any text is
scanned to the same token when it stands alone; a variable name is an identifier), so every parser output satisfies the decidable
hypothesis `lexOkB` of the text-level round trip (`renders_lexOk`).  With `parse_print_parse` (`Props/C06m`):
**`parse_print_parse_text`**.
-/
namespace Hpl

theorem takeWhileC_all (p : Char → Bool) (a : List Char) (h : a.all p = true) : takeWhileC p a = (a, []) := by
  simpa using takeWhileC_append p a [] h (fun x hx => by cases hx)

/-- an exponent part is empty or starts with `e` / `E`, and is an exponent part on its own -/
theorem scanExp_self (cs ex r : List Char) (h : scanExp cs = (ex, r)) :
    cs = ex ++ r ∧ scanExp ex = (ex, []) ∧ (∀ x, ex.head? = some x → x = 'e' ∨ x = 'E') := by
  have nil : (([] : List Char), cs) = (ex, r) → cs = ex ++ r ∧ scanExp ex = (ex, []) ∧ (∀ x, ex.head? = some x → x = 'e' ∨ x = 'E') := by
    intro he
    cases he
    exact ⟨rfl, rfl, fun x hx => by cases hx⟩
  have hd : ∀ {e : Char} {t : List Char}, (e == 'e' || e == 'E') = true → ∀ x, (e :: t).head? = some x → x = 'e' ∨ x = 'E' := by
    intro e t he x hx
    cases hx
    simpa using he
  fun_cases scanExp cs with
  | case1 e he s d rest' hsd ds r' hr =>
    simp only [scanExp, he, hsd, hr, if_true] at h
    cases h
    obtain ⟨h1, h2, -⟩ := takeWhileC_spec _ _ _ _ hr
    refine ⟨by rw [h1]; rfl, ?_, hd he⟩
    simp only [scanExp, he, hsd, if_true, takeWhileC_all _ _ h2]
  | case2 e he s d rest' hsd hs ds r' hr =>
    simp only [scanExp, he, hsd, hs, hr, if_true, Bool.false_eq_true, if_false] at h
    cases h
    obtain ⟨h1, h2, -⟩ := takeWhileC_spec _ _ _ _ hr
    refine ⟨by rw [h1]; rfl, ?_, hd he⟩
    have hns : (s == '+' || s == '-') = false := by
      rw [class_ne hs (x := '+') (by decide), class_ne hs (x := '-') (by decide)]
      rfl
    cases ds with
    | nil => simp only [scanExp, he, hs, if_true]
    | cons x xs => simp only [scanExp, he, hns, hs, takeWhileC_all _ _ h2, if_true, Bool.false_and, Bool.false_eq_true, if_false]
  | case3 e he s d rest' hsd hs => exact nil (by simpa only [scanExp, he, hsd, hs, if_true, Bool.false_eq_true, if_false] using h)
  | case4 e he d hd' =>
    simp only [scanExp, he, hd', if_true] at h
    cases h
    exact ⟨rfl, by simp only [scanExp, he, hd', if_true], hd he⟩
  | case5 e he d hd' => exact nil (by simpa only [scanExp, he, hd', if_true, Bool.false_eq_true, if_false] using h)
  | case6 e he => exact nil (by simpa only [scanExp, he, if_true] using h)
  | case7 e rest he => exact nil (by simpa only [scanExp, he, Bool.false_eq_true, if_false] using h)
  | case8 => exact nil (by simpa only [scanExp] using h)
theorem exp_head_notDigit {ex : List Char} (h : ∀ x, ex.head? = some x → x = 'e' ∨ x = 'E') : ∀ x, ex.head? = some x → isDigitA x = false := by
  intro x hx
  rcases h x hx with rfl | rfl <;> decide

/-- a NUMBER token scanned out of a text is the whole of its own text -/
theorem scanNumber_self (cs n r : List Char) (h : scanNumber cs = some (n, r)) : cs = n ++ r ∧ scanNumber n = some (n, []) := by
  fun_cases scanNumber cs with
  | case1 ip r2 fp r3 hf hemp hi => simp [scanNumber, hi, hf, hemp] at h
  | case2 ip r2 fp r3 hf hemp ex r4 he hi =>
    simp only [scanNumber, hi, hf, hemp, he, Bool.false_eq_true, if_false, Option.some.injEq, Prod.mk.injEq] at h
    obtain ⟨rfl, rfl⟩ := h
    obtain ⟨h1, h2, -⟩ := takeWhileC_spec _ _ _ _ hi
    obtain ⟨f1, f2, -⟩ := takeWhileC_spec _ _ _ _ hf
    obtain ⟨e1, e2, e3⟩ := scanExp_self _ _ _ he
    simp only [List.append_assoc, List.cons_append]
    refine ⟨by rw [h1, f1, e1], ?_⟩
    have t1 : takeWhileC isDigitA (ip ++ '.' :: (fp ++ ex)) = (ip, '.' :: (fp ++ ex)) :=
      takeWhileC_append isDigitA ip ('.' :: (fp ++ ex)) h2 (fun x hx => by cases hx; decide)
    have t2 : takeWhileC isDigitA (fp ++ ex) = (fp, ex) := takeWhileC_append isDigitA fp ex f2 (exp_head_notDigit e3)
    simp only [scanNumber, t1, t2, hemp, e2, Bool.false_eq_true, if_false, List.append_assoc, List.cons_append]
  | case3 ip r1 hi hemp hnd => simp [scanNumber, hi, hemp] at h
  | case4 ip r1 hi hemp ex r4 he hnd =>
    simp only [scanNumber, hi, hemp, he, Bool.false_eq_true, if_false, Option.some.injEq, Prod.mk.injEq] at h
    obtain ⟨rfl, rfl⟩ := h
    obtain ⟨h1, h2, -⟩ := takeWhileC_spec _ _ _ _ hi
    obtain ⟨e1, e2, e3⟩ := scanExp_self _ _ _ he
    refine ⟨by rw [h1, e1, List.append_assoc], ?_⟩
    have t1 : takeWhileC isDigitA (ip ++ ex) = (ip, ex) := takeWhileC_append isDigitA ip ex h2 (exp_head_notDigit e3)
    simp only [scanNumber, t1, hemp, e2, Bool.false_eq_true, if_false]
    cases ex with
    | nil => rfl
    | cons x xs => rcases e3 x rfl with rfl | rfl <;> rfl
theorem num_tok_ok (c : Char) (rest n r : List Char) (hg : numGuard c rest = true)
    (h : scanNumber (c :: rest) = some (n, r)) : numTokOk n = true := by
  unfold numGuard at hg
  obtain ⟨hcs, hself⟩ := scanNumber_self _ _ _ h
  cases n with
  | nil => exact absurd hself (by decide)
  | cons c' w' =>
    simp only [List.cons_append, List.cons.injEq] at hcs
    obtain ⟨rfl, rfl⟩ := hcs
    simp only [numTokOk, hself, beq_self_eq_true, Bool.true_and]
    simp only [Bool.or_eq_true, Bool.and_eq_true] at hg ⊢
    rcases hg with hd | ⟨hdot, hnext⟩
    · exact .inl hd
    · refine .inr ⟨hdot, ?_⟩
      have hc : c = '.' := by simpa using hdot
      subst hc
      cases w' with
      | nil => exact absurd hself (by decide)
      | cons d w'' => simpa using hnext

/-- an ESCAPED_STRING token scanned out of a text is the whole of its own text -/
theorem scanString_self (cs acc s r : List Char) (h : scanString cs acc = some (s, r)) :
    ∃ body, cs = body ++ r ∧ s = acc.reverse ++ body ∧ scanString body acc = some (s, []) := by
  fun_induction scanString cs acc with
  | case1 acc => simp at h
  | case2 acc t =>
    simp only [Option.some.injEq, Prod.mk.injEq] at h
    obtain ⟨rfl, rfl⟩ := h
    exact ⟨['"'], rfl, rfl, by simp [scanString]⟩
  | case3 acc c t hc => simp at h
  | case4 x body acc hc ih =>
    obtain ⟨b, rfl, hs, hb⟩ := ih h
    refine ⟨'\\' :: x :: b, rfl, by simpa using hs, ?_⟩
    rw [scanString]
    simp only [hc]
    exact hb
  | case5 acc t => simp at h
  | case6 x body acc h1 h2 h3 ih =>
    obtain ⟨b, rfl, hs, hb⟩ := ih h
    refine ⟨x :: b, rfl, by simpa using hs, ?_⟩
    by_cases hx : x = '\\'
    · subst hx
      cases b with
      | nil => simp [scanString] at hb
      | cons y ys => exact absurd rfl (h2 y (ys ++ r) rfl)
    · rw [scanString]
      · exact hb
      · exact h1
      · exact fun _ _ hc _ => hx hc
      · exact h3

theorem str_tok_ok (rest s r : List Char) (h : scanString rest ['"'] = some (s, r)) : strTokOk s = true := by
  obtain ⟨body, _, hs, hb⟩ := scanString_self _ _ _ _ h
  simp only [List.reverse_cons, List.reverse_nil, List.nil_append, List.singleton_append] at hs
  subst hs
  simp only [strTokOk, hb, beq_self_eq_true]

/-- what the scanner guarantees of a token: a NUMBER / ESCAPED_STRING token is a complete token of its own text, a variable
    name is an identifier -/
def TokOk (t : Tok) : Bool :=
  match t.kind with
  | .num => numTokOk t.text.toList
  | .str => strTokOk t.text.toList
  | .var => isCName t.text
  | _ => true

theorem scanTok_tokOk {d : Nat} {c : Char} {rest : List Char} {k : TokKind} {t r : List Char} {d' : Nat} {aw' : Bool}
    (h : scanTok d c rest = some (k, t, r, d', aw')) (g aw : Bool) : TokOk ⟨k, String.ofList t, g, aw⟩ = true := by
  rcases scanTok_cases h with ⟨rfl, _, hi, ht, _⟩ | ⟨rfl, _, hs, _⟩ | ⟨rfl, hg, hn, _⟩ | ⟨rfl, _⟩ | ⟨rfl, _⟩
  · cases rest with
    | nil => cases hi
    | cons x xs =>
      rw [takeWhileC, if_pos (idStart_idChar x hi)] at ht
      cases ht
      simp only [TokOk, isCName, String.toList_ofList, show isIdStart x = true from hi, (takeWhileC_spec _ xs _ _ rfl).2.1, Bool.and_self]
  · simp only [TokOk, String.toList_ofList]
    exact str_tok_ok rest t r hs
  · simp only [TokOk, String.toList_ofList]
    exact num_tok_ok c rest t r hg hn
  · rfl
  · rfl

theorem scan_tokOk : ∀ (f : Nat) (cs : List Char) (depth : Nat) (g aw : Bool) (acc ts : List Tok),
    scan f cs depth g aw acc = .ok ts → (∀ t ∈ acc, TokOk t = true) → ∀ t ∈ ts, TokOk t = true
  | 0, cs, depth, g, aw, acc, ts, h, _ => by cases h
  | f + 1, [], depth, g, aw, acc, ts, h, hacc => by
      rw [scan_nil] at h
      cases h
      simpa using hacc
  | f + 1, c :: rest, depth, g, aw, acc, ts, h, hacc => by
      rw [scan_cons] at h
      by_cases hws : isWs c = true
      · rw [if_pos hws] at h
        exact scan_tokOk f rest depth false false acc ts h hacc
      · rw [if_neg hws] at h
        cases hk : scanTok depth c rest with
        | none => rw [hk] at h; cases h
        | some x =>
          obtain ⟨k, t, r, d', aw'⟩ := x
          rw [hk] at h
          exact scan_tokOk f r d' true aw' _ ts h (fun t' ht' => by
            rcases List.mem_cons.mp ht' with rfl | ht'
            · exact scanTok_tokOk hk g aw
            · exact hacc t' ht')

theorem lex_tokOk {s : String} {ts : List Tok} (h : lex s = .ok ts) : ∀ t ∈ ts, TokOk t = true :=
  scan_tokOk _ _ _ _ _ [] ts h (fun _ ht => by cases ht)

theorem lexExpr_tokOk {s : String} {ts : List Tok} (h : lexExpr s = .ok ts) : ∀ t ∈ ts, TokOk t = true :=
  scan_tokOk _ _ _ _ _ [] ts h (fun _ ht => by cases ht)

theorem rawSnoc_lexOk : ∀ (es : RawList) (e : Raw), RawList.lexOkLB (rawSnoc es e) = (RawList.lexOkLB es && e.lexOkB)
  | .nil, e => by simp [rawSnoc, RawList.lexOkLB]
  | .cons x xs, e => by simp [rawSnoc, RawList.lexOkLB, rawSnoc_lexOk xs e, Bool.and_assoc]

/-- the literal tokens and variable names of whatever the grammar derives from scanned tokens are complete tokens -/
theorem renders_lexOk {k : Nat} {e : Raw} {ts : List Tok} (h : Renders k e ts) : (∀ t ∈ ts, TokOk t = true) → e.lexOkB = true := by
  induction h with
  | up _ _ _ ih => exact ih
  | binL t _ _ _ _ iha ihb =>
    intro ht
    exact Bool.and_eq_true_iff.mpr ⟨iha (fun x hx => ht x (by simp [hx])), ihb (fun x hx => ht x (by simp [hx]))⟩
  | rel t _ _ _ iha ihb =>
    intro ht
    exact Bool.and_eq_true_iff.mpr ⟨iha (fun x hx => ht x (by simp [hx])), ihb (fun x hx => ht x (by simp [hx]))⟩
  | not t _ _ iha => intro ht; exact iha (fun x hx => ht x (by simp [hx]))
  | quant t v kin c _ _ _ _ _ _ _ ihd ihb =>
    intro ht
    exact Bool.and_eq_true_iff.mpr ⟨ihd (fun x hx => ht x (by simp [hx])), ihb (fun x hx => ht x (by simp [hx]))⟩
  | neg t _ _ iha => intro ht; exact iha (fun x hx => ht x (by simp [hx]))
  | paren o c _ _ _ ih => intro ht; exact ih (fun x hx => ht x (by simp [hx]))
  | str t hk =>
    intro ht
    have := ht t (by simp)
    simp only [TokOk, hk] at this
    simp [Raw.lexOkB, litOk, litLexB, this]
  | num t v hk hv =>
    intro ht
    have := ht t (by simp)
    simp only [TokOk, hk] at this
    rcases decimalValue_kind hv with ⟨i, rfl⟩ | ⟨q, rfl⟩ <;> simp [Raw.lexOkB, litOk_num hv, litLexB, this]
  | true_ t _ _ => intro _; simp [Raw.lexOkB, litOk, litLexB]
  | false_ t _ _ => intro _; simp [Raw.lexOkB, litOk, litLexB]
  | const t v _ _ hv =>
    intro _
    have hs : (numberConstant t.text).isSome = true := by rw [hv]; rfl
    rcases const_kind hv with ⟨q, rfl⟩ | rfl | rfl <;> simp [Raw.lexOkB, litOk_const hv, litLexB, hs]
  | call f o c _ _ _ _ _ iha =>
    intro ht
    simp only [Raw.lexOkB, RawList.lexOkLB, Bool.and_true]
    exact iha (fun x hx => ht x (by simp [hx]))
  | range o kto c _ _ _ _ _ ihl ihh =>
    intro ht
    exact Bool.and_eq_true_iff.mpr ⟨ihl (fun x hx => ht x (by simp [hx])), ihh (fun x hx => ht x (by simp [hx]))⟩
  | setOne _ ihe =>
    intro ht
    simp only [Raw.lexOkB, RawList.lexOkLB, Bool.and_true]
    exact ihe ht
  | setMore c _ _ _ ihs ihe =>
    intro ht
    simp only [Raw.lexOkB, rawSnoc_lexOk, Bool.and_eq_true]
    exact ⟨by simpa [Raw.lexOkB] using ihs (fun x hx => ht x (by simp [hx])), ihe (fun x hx => ht x (by simp [hx]))⟩
  | set o c _ _ _ ihs => intro ht; exact ihs (fun x hx => ht x (by simp [hx]))
  | var t hk =>
    intro ht
    have := ht t (by simp)
    simp only [TokOk, hk] at this
    simpa [Raw.lexOkB] using this
  | own t _ _ => intro _; rfl
  | field d n _ _ _ _ ih =>
    intro ht
    exact ih (fun x hx => ht x (by simp [hx]))
  | index o c _ _ _ _ iha ihi =>
    intro ht
    exact Bool.and_eq_true_iff.mpr ⟨iha (fun x hx => ht x (by simp [hx])), ihi (fun x hx => ht x (by simp [hx]))⟩
  | ref _ ih => exact ih

/-- **C06 on strings, for every input**: if a text parses as an expression to `e`, then the printed form of `e` parses to `e` again -
    provided no own field or function of the syntax tree is named like one of the nine words that open an atom or a logic operand
    (the known-finding family). No hypothesis on how the text was produced; the scanner, the parser, the constructors and the
    printer are all inside the statement. -/
theorem parse_print_parse_text {s : String} {ts : List Tok} {r : Raw} {e : Expr}
    (hl : lexExpr s = .ok ts) (hp : parseExpressionToks ts = .ok r) (hb : build r = .ok e) (hg : r.goodNames = true) :
    parseExpression e.print = .ok e :=
  print_parse_roundtrip_dec r e (renders_printable (parse_sound hp) hg).1 (renders_lexOk (parse_sound hp) (lexExpr_tokOk hl)) hb

/-- the same for predicates: `parse_predicate (str p) = p` for every predicate `p` the parser returns -/
theorem parse_print_parse_text_pred {s : String} {ts : List Tok} {r : Raw} {e : Expr} {p : Pred}
    (hl : lex s = .ok ts) (hp : parsePredicateToks ts = .ok r) (hb : build r = .ok e) (hpr : predFromExpr e = .ok p)
    (hg : r.goodNames = true) : parsePredicate p.print = .ok p := by
  obtain ⟨o, mid, c, rfl, _, _, hr⟩ := parse_predicate_sound hp
  have htok := lex_tokOk hl
  exact pred_print_parse_roundtrip r e p (renders_printable hr hg).1
    (renders_lexOk hr (fun t ht => htok t (by simp [ht]))) hb hpr

/-- inversion of the entry point: an accepted text went through the scanner, the parser and the constructors -/
theorem parseExpression_inv {s : String} {e : Expr} (h : parseExpression s = .ok e) :
    ∃ ts r, lexExpr s = .ok ts ∧ parseExpressionToks ts = .ok r ∧ build r = .ok e := by
  unfold parseExpression at h
  cases hl : lexExpr s with
  | error x => rw [hl] at h; cases h
  | ok ts =>
    rw [hl] at h
    simp only at h
    cases hp : parseExpressionToks ts with
    | error x => rw [hp] at h; cases h
    | ok r => rw [hp] at h; exact ⟨ts, r, rfl, hp, h⟩

/-- **`parse ∘ print ∘ parse = parse`** on texts -/
theorem parse_print_parse_expression {s : String} {e : Expr} (h : parseExpression s = .ok e)
    (hg : ∀ ts r, lexExpr s = .ok ts → parseExpressionToks ts = .ok r → r.goodNames = true) :
    parseExpression e.print = .ok e := by
  obtain ⟨ts, r, hl, hp, hb⟩ := parseExpression_inv h
  exact parse_print_parse_text hl hp hb (hg ts r hl hp)

/-- … "and printing that result yields the same text again" -/
theorem print_stable {s : String} {e : Expr} (h : parseExpression s = .ok e)
    (hg : ∀ ts r, lexExpr s = .ok ts → parseExpressionToks ts = .ok r → r.goodNames = true) :
    ∀ e', parseExpression e.print = .ok e' → e'.print = e.print := by
  intro e' h'
  rw [parse_print_parse_expression h hg] at h'
  cases h'; rfl

/-- … "consequently two parsed ASTs that differ print differently": on parser outputs the printer is injective -/
theorem print_injective_on_parsed {s1 s2 : String} {e1 e2 : Expr} (h1 : parseExpression s1 = .ok e1) (h2 : parseExpression s2 = .ok e2)
    (hg1 : ∀ ts r, lexExpr s1 = .ok ts → parseExpressionToks ts = .ok r → r.goodNames = true)
    (hg2 : ∀ ts r, lexExpr s2 = .ok ts → parseExpressionToks ts = .ok r → r.goodNames = true)
    (hp : e1.print = e2.print) : e1 = e2 := by
  have a := parse_print_parse_expression h1 hg1
  have b := parse_print_parse_expression h2 hg2
  rw [hp, b] at a
  exact (Except.ok.inj a).symm

end Hpl
