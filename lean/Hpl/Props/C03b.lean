import Hpl.Props.C03
import Hpl.Lemmas.Simplify
import Hpl.Lemmas.Dedup
/-!
# C03 — the simplifier hands out well-typed trees of the same type

`simplify_typed`: every result of the model of `hpl.rewrite.simplify` on a well-typed tree (`WT`, the invariant of
`Props/C03`) is well-typed and has exactly the type set of the input (`TypedAs`), by induction on the fuel of the
mutually recursive model functions; every new node goes through a smart constructor and gets the single result type of
its operator or function, every other result is a sub-tree of the input or a literal of the right type.
-/
namespace Hpl

/-! ## sub-trees of well-typed trees -/

theorem WT_un_inv {t : DataType} {op : String} {a : Expr} (h : WT (.un t op a)) : WT a := by
  obtain ⟨d, _, _, ha, _⟩ := h; exact ha
theorem WT_bin_inv {t : DataType} {op : String} {a b : Expr} (h : WT (.bin t op a b)) : WT a ∧ WT b := by
  obtain ⟨d, _, _, ha, hb, _⟩ := h; exact ⟨ha, hb⟩
theorem WT_call_inv {t : DataType} {f : String} {args : ExprList} (h : WT (.call t f args)) : WTList args := by
  obtain ⟨d, _, _, ha, _⟩ := h; exact ha
theorem WT_set_inv {t : DataType} {vs : ExprList} (h : WT (.set t vs)) : WTList vs := WTSet_WTList h.2

theorem WTList_mem : ∀ {es : ExprList}, WTList es → ∀ e ∈ es.toList, WT e
  | .nil, _, e, he => by cases he
  | .cons e' es, h, e, he => by
      rcases List.mem_cons.1 he with rfl | he
      · exact h.1
      · exact WTList_mem h.2 e he

theorem WTList_ofList : ∀ {l : List Expr}, (∀ e ∈ l, WT e) → WTList (ExprList.ofList l)
  | [], _ => trivial
  | e :: l, h => ⟨h e List.mem_cons_self, WTList_ofList (fun e' he' => h e' (List.mem_cons_of_mem _ he'))⟩

structure TypedAs (t : DataType) (e : Expr) : Prop where
  wt : WT e
  ty : e.ty = t

theorem TypedAs.trans {t : DataType} {e r : Expr} (he : TypedAs t e) (hr : TypedAs e.ty r) : TypedAs t r := he.ty ▸ hr

/-! ## literals -/

theorem litNumber_typed {v : LitVal} {e : Expr} (h : litNumber v = .ok e) (hv : v.ty = T.NUMBER) : TypedAs T.NUMBER e := by
  rcases ite_eq h with ⟨-, h⟩ | ⟨-, h⟩
  · cases h
  · obtain ⟨s, -, h⟩ := bind_ok h
    cases h
    exact ⟨hv.symm, rfl⟩

theorem litBool_typed (b : Bool) : TypedAs T.BOOL (litBool b) := ⟨rfl, rfl⟩
theorem trueLit_typed : TypedAs T.BOOL trueLit := ⟨rfl, rfl⟩
theorem falseLit_typed : TypedAs T.BOOL falseLit := ⟨rfl, rfl⟩

theorem mkNumVal_ty (b : Bool) (q : Rat) : (mkNumVal b q).ty = T.NUMBER := by
  unfold mkNumVal; split <;> rfl

theorem pyArith_ty {f : Rat → Rat → Rat} {a b z : LitVal} (h : pyArith f a b = .ok z) : z.ty = T.NUMBER := by
  unfold pyArith at h
  generalize a.toRat? = oa, b.toRat? = ob at h
  cases oa <;> cases ob <;> cases h
  exact mkNumVal_ty _ _

theorem pyDiv_ty {a b z : LitVal} (h : pyDiv a b = .ok z) : z.ty = T.NUMBER := by
  unfold pyDiv at h
  generalize a.toRat? = oa, b.toRat? = ob at h
  cases oa <;> cases ob <;> try cases h
  rcases ite_eq h with ⟨-, h⟩ | ⟨-, h⟩ <;> cases h
  rfl

theorem pyPow_ty {a b z : LitVal} (h : pyPow a b = .ok z) : z.ty = T.NUMBER := by
  unfold pyPow at h
  generalize a.toRat? = oa at h
  cases oa with
  | none => cases h
  | some x =>
    cases b with
    | int n =>
      rcases ite_eq h with ⟨-, h⟩ | ⟨-, h⟩
      · rcases ite_eq h with ⟨-, h⟩ | ⟨-, h⟩
        · cases h
        · cases h; exact mkNumVal_ty _ _
      rcases ite_eq h with ⟨-, h⟩ | ⟨-, h⟩
      · cases h
      rcases ite_eq h with ⟨-, h⟩ | ⟨-, h⟩
      · cases h
      · cases h; rfl
    | _ => cases h

theorem pyNeg_ty {a z : LitVal} (h : pyNeg a = .ok z) : z.ty = T.NUMBER := by
  cases a <;> cases h <;> rfl

theorem pyAbs_ty {a z : LitVal} (h : pyAbs a = .ok z) : z.ty = T.NUMBER := by
  cases a <;> cases h <;> rfl

/-- the value of a number literal of a well-typed tree is numeric -/
theorem numLit_ty {e : Expr} {v : LitVal} (h : numLit? e = some v) (hw : WT e) : v.ty = T.NUMBER := by
  cases e with
  | lit t k lv =>
    simp only [numLit?] at h
    split at h
    · rename_i hne
      cases h
      have ht : t = v.ty := hw
      subst ht
      cases v with
      | bool b => exact absurd (show (LitVal.bool b).ty &&& T.NUMBER = 0 by simp only [LitVal.ty]; decide) hne
      | str s => exact absurd (show (LitVal.str s).ty &&& T.NUMBER = 0 by simp only [LitVal.ty]; decide) hne
      | _ => rfl
    · cases h
  | _ => simp [numLit?] at h

theorem atomic_eq {a t : DataType} (ht : Atomic t) (hs : sub a t) (hne : a ≠ 0) : a = t := by
  have h := ht.2 a
  rw [Nat.and_comm, show a &&& t = a from hs] at h
  exact h.resolve_left hne

def isArith (op : String) : Bool := op == "+" || op == "-" || op == "*" || op == "/" || op == "**"
def isLogic (op : String) : Bool := op == "and" || op == "or" || op == "implies" || op == "iff"
def isCmp (op : String) : Bool := op == "=" || op == "!=" || op == "<" || op == "<=" || op == ">" || op == ">="

theorem binOps_tys : ∀ d ∈ Gen.binOps,
    (isLogic d.token = true → d.res = T.BOOL ∧ d.p1 = T.BOOL ∧ d.p2 = T.BOOL) ∧
    (isArith d.token = true → d.res = T.NUMBER ∧ d.p1 = T.NUMBER ∧ d.p2 = T.NUMBER) ∧
    (isCmp d.token = true → d.res = T.BOOL) := by decide

theorem findBin_logic {op : String} {d : BinDef} (ho : isLogic op = true) (hd : findBin op = some d) :
    d.res = T.BOOL ∧ d.p1 = T.BOOL ∧ d.p2 = T.BOOL := by
  obtain ⟨hm, rfl⟩ := findBin_token hd
  exact (binOps_tys d hm).1 ho

theorem findBin_arith {op : String} {d : BinDef} (ho : isArith op = true) (hd : findBin op = some d) :
    d.res = T.NUMBER ∧ d.p1 = T.NUMBER ∧ d.p2 = T.NUMBER := by
  obtain ⟨hm, rfl⟩ := findBin_token hd
  exact (binOps_tys d hm).2.1 ho

theorem inverseOps_res : ∀ p ∈ Gen.inverseOps, p.1 = p.2 ∨ (findBin p.1).map (·.res) = (findBin p.2).map (·.res) := by decide

theorem bin_tys {T t : DataType} {op : String} {a b : Expr} (hT : Atomic T)
    (h : ∀ {d}, findBin op = some d → d.res = T ∧ d.p1 = T ∧ d.p2 = T) (hw : WT (.bin t op a b)) :
    t = T ∧ TypedAs T a ∧ TypedAs T b := by
  obtain ⟨d, hd, ht, ha, hb, hsa, hsb, -⟩ := hw
  obtain ⟨h1, h2, h3⟩ := h hd
  rw [h2] at hsa
  rw [h3] at hsb
  exact ⟨ht.trans h1, ⟨ha, atomic_eq hT hsa (WT_ne _ ha)⟩, ⟨hb, atomic_eq hT hsb (WT_ne _ hb)⟩⟩

theorem logic_tys {t : DataType} {op : String} {a b : Expr} (ho : isLogic op = true) (hw : WT (.bin t op a b)) :
    t = T.BOOL ∧ TypedAs T.BOOL a ∧ TypedAs T.BOOL b := bin_tys atomic_bool (findBin_logic ho) hw

theorem arith_tys {t : DataType} {op : String} {a b : Expr} (ho : isArith op = true) (hw : WT (.bin t op a b)) :
    t = T.NUMBER ∧ TypedAs T.NUMBER a ∧ TypedAs T.NUMBER b := bin_tys atomic_number (findBin_arith ho) hw

theorem cmp_ty {t : DataType} {op : String} {a b : Expr} (ho : isCmp op = true) (hw : WT (.bin t op a b)) : t = T.BOOL := by
  obtain ⟨d, hd, ht, -⟩ := hw
  obtain ⟨hm, rfl⟩ := findBin_token hd
  exact ht.trans ((binOps_tys d hm).2.2 ho)

theorem mkBin_typed {op : String} {a b r : Expr} (h : mkBin op a b = .ok r) (ha : WT a) (hb : WT b) :
    ∃ d, findBin op = some d ∧ TypedAs d.res r := by
  obtain ⟨d, a1, b1, hd, -, -, ⟨-, a2, b2, -, -, hr⟩ | ⟨-, hr⟩⟩ := mkBin_ok h <;>
    exact ⟨d, hd, mkBin_WT h ha hb, hr ▸ rfl⟩

theorem mkBin_logic {op : String} {a b r : Expr} (ho : isLogic op = true) (h : mkBin op a b = .ok r) (ha : WT a) (hb : WT b) :
    TypedAs T.BOOL r := by
  obtain ⟨d, hd, hr⟩ := mkBin_typed h ha hb
  exact (findBin_logic ho hd).1 ▸ hr

theorem mkBin_arith {op : String} {a b r : Expr} (ho : isArith op = true) (h : mkBin op a b = .ok r) (ha : WT a) (hb : WT b) :
    TypedAs T.NUMBER r := by
  obtain ⟨d, hd, hr⟩ := mkBin_typed h ha hb
  exact (findBin_arith ho hd).1 ▸ hr

theorem unOps_tys : ∀ d ∈ Gen.unOps,
    d.param = d.res ∧ (d.token = Gen.NOT_OPERATOR → d.res = T.BOOL) ∧ (d.token = "-" → d.res = T.NUMBER) := by decide

theorem findUn_tys {op : String} {d : UnDef} (h : findUn op = some d) :
    d.param = d.res ∧ (op = Gen.NOT_OPERATOR → d.res = T.BOOL) ∧ (op = "-" → d.res = T.NUMBER) := by
  have ht := List.find?_some h
  cases eq_of_beq ht
  exact unOps_tys d (List.mem_of_find?_eq_some h)

theorem un_tys {t : DataType} {op : String} {a : Expr} (hw : WT (.un t op a)) : TypedAs t a := by
  obtain ⟨d, hd, rfl, ha, hs⟩ := hw
  rw [(findUn_tys hd).1] at hs
  exact ⟨ha, atomic_eq (un_res_atomic hd) hs (WT_ne _ ha)⟩

theorem not_ty {t : DataType} {a : Expr} (hw : WT (.un t Gen.NOT_OPERATOR a)) : t = T.BOOL := by
  obtain ⟨d, hd, ht, -⟩ := hw
  exact ht.trans ((findUn_tys hd).2.1 rfl)

theorem neg_ty {t : DataType} {a : Expr} (hw : WT (.un t "-" a)) : t = T.NUMBER := by
  obtain ⟨d, hd, ht, -⟩ := hw
  exact ht.trans ((findUn_tys hd).2.2 rfl)

theorem mkUn_typed {op : String} {a r : Expr} (h : mkUn op a = .ok r) (ha : WT a) : ∃ d, findUn op = some d ∧ TypedAs d.res r := by
  obtain ⟨d, a', hd, -, hr⟩ := mkUn_ok h
  exact ⟨d, hd, mkUn_WT h ha, hr ▸ rfl⟩

theorem mkNot_WT {a e : Expr} (h : mkNot a = .ok e) (ha : WT a) : WT e := mkUn_WT h ha

theorem mkNot_typed {a r : Expr} (h : mkNot a = .ok r) (ha : WT a) : TypedAs T.BOOL r := by
  obtain ⟨d, hd, hr⟩ := mkUn_typed h ha
  exact (findUn_tys hd).2.1 rfl ▸ hr

theorem mkMinus_typed {a r : Expr} (h : mkMinus a = .ok r) (ha : WT a) : TypedAs T.NUMBER r := by
  obtain ⟨d, hd, hr⟩ := mkUn_typed h ha
  exact (findUn_tys hd).2.2 rfl ▸ hr

theorem mkSet_typed {vs : ExprList} {r : Expr} (h : mkSet vs = .ok r) (hw : WTList vs) : TypedAs T.SET r := by
  obtain ⟨vs', -, hr⟩ := mkSet_ok h
  exact ⟨mkSet_WT h hw, hr ▸ rfl⟩

theorem mkRange_typed {lo hi r : Expr} {a b : Bool} (h : mkRange lo hi a b = .ok r) (hlo : WT lo) (hhi : WT hi) : TypedAs T.RANGE r := by
  obtain ⟨lo', hi', -, -, hr⟩ := mkRange_ok h
  exact ⟨mkRange_WT h hlo hhi, hr ▸ rfl⟩

/-! ## the rule functions -/

theorem flattenOp_typed {op : String} (ho : isLogic op = true) : ∀ (f : Nat) (stack acc : List Expr),
    (∀ e ∈ stack, TypedAs T.BOOL e) → (∀ e ∈ acc, TypedAs T.BOOL e) → ∀ e ∈ flattenOp op f stack acc, TypedAs T.BOOL e
  | 0, _, acc, _, ha => ha
  | f+1, [], acc, _, ha => ha
  | f+1, x :: stack, acc, hs, ha => by
      obtain ⟨hx, hst⟩ := List.forall_mem_cons.1 hs
      have hacc : ∀ e ∈ acc ++ [x], TypedAs T.BOOL e := List.forall_mem_append.2 ⟨ha, List.forall_mem_singleton.2 hx⟩
      cases x with
      | bin t o a b =>
        show ∀ e ∈ (if o == op then _ else _), _
        split
        · rename_i heq
          cases eq_of_beq heq
          obtain ⟨-, wa, wb⟩ := logic_tys ho hx.wt
          exact flattenOp_typed ho f _ _ (List.forall_mem_cons.2 ⟨wb, List.forall_mem_cons.2 ⟨wa, hst⟩⟩) ha
        · exact flattenOp_typed ho f _ _ hst hacc
      | _ => exact flattenOp_typed ho f _ _ hst hacc

theorem getJuncts_typed {op : String} (ho : isLogic op = true) {e : Expr} (h : TypedAs T.BOOL e) : ∀ x ∈ getJuncts op e, TypedAs T.BOOL x :=
  flattenOp_typed ho _ [e] [] (List.forall_mem_singleton.2 h) (by simp)

theorem foldlM_ind {P : Expr → Prop} {mk : Expr → Expr → M Expr} (hmk : ∀ a b r, mk a b = .ok r → P a → P b → P r) :
    ∀ (rest : List Expr) (psi r : Expr), rest.foldlM (fun acc c => mk c acc) psi = .ok r → P psi → (∀ e ∈ rest, P e) → P r
  | [], psi, r, h, hp, _ => by cases h; exact hp
  | c :: rest, psi, r, h, hp, hr => by
      rw [List.foldlM_cons] at h
      obtain ⟨psi', h1, h⟩ := bind_ok h
      obtain ⟨hc, hr⟩ := List.forall_mem_cons.1 hr
      exact foldlM_ind hmk rest psi' r h (hmk _ _ _ h1 hc hp) hr

theorem chain_ind {P : Expr → Prop} {mk : Expr → Expr → M Expr} (hmk : ∀ a b r, mk a b = .ok r → P a → P b → P r) {l : List Expr}
    {r : Expr} (h : chain mk l = .ok r) (hl : ∀ e ∈ l, P e) : P r := by
  match l, h with
  | [c], h => cases h; exact hl _ (by simp)
  | c0 :: c1 :: rest, h =>
    obtain ⟨psi, h1, h⟩ := bind_ok h
    exact foldlM_ind hmk rest psi r h (hmk _ _ _ h1 (hl c0 (by simp)) (hl c1 (by simp))) (fun e he => hl e (by simp [he]))

theorem dedupeJuncts_typed {op : String} (ho : isLogic op = true) {phi p q r : Expr}
    (h : dedupeJuncts op (mkBin op) phi p q = .ok r) (hphi : TypedAs T.BOOL phi) (hp : TypedAs T.BOOL p) (hq : TypedAs T.BOOL q) :
    TypedAs T.BOOL r := by
  have hmk : ∀ a b r, mkBin op a b = .ok r → TypedAs T.BOOL a → TypedAs T.BOOL b → TypedAs T.BOOL r :=
    fun _ _ _ h ha hb => mkBin_logic ho h ha.wt hb.wt
  have hjs : ∀ e ∈ getJuncts op p ++ getJuncts op q, TypedAs T.BOOL e :=
    List.forall_mem_append.2 ⟨getJuncts_typed ho hp, getJuncts_typed ho hq⟩
  unfold dedupeJuncts at h
  simp only at h
  split at h
  · split at h
    · cases h
      cases hj : getJuncts op p ++ getJuncts op q with
      | nil => exact hphi
      | cons x xs => exact hjs x (by rw [hj]; simp)
    · exact chain_ind hmk h (fun e he => hjs e (mem_eraseDups he))
  · exact hmk _ _ _ h hp hq

/-- the common shape of `_simplify_conjunction` and `_simplify_disjunction`: `zero` recognises the annihilating literal (`zlit`),
    `unit` the neutral one -/
theorem junction_typed {op : String} (ho : isLogic op = true) {zero unit : Expr → Bool} {zlit phi p q r : Expr}
    (hz : TypedAs T.BOOL zlit)
    (h : (if zero p then .ok p else if zero q then .ok q else if unit p then .ok q else if unit q then .ok p
      else if p == q then .ok p else if obviouslyDifferent p q then .ok zlit
      else dedupeJuncts op (mkBin op) phi p q) = .ok r)
    (hphi : TypedAs T.BOOL phi) (hp : TypedAs T.BOOL p) (hq : TypedAs T.BOOL q) : TypedAs T.BOOL r := by
  rcases ite_eq h with ⟨-, h⟩ | ⟨-, h⟩
  · cases h; exact hp
  rcases ite_eq h with ⟨-, h⟩ | ⟨-, h⟩
  · cases h; exact hq
  rcases ite_eq h with ⟨-, h⟩ | ⟨-, h⟩
  · cases h; exact hq
  rcases ite_eq h with ⟨-, h⟩ | ⟨-, h⟩
  · cases h; exact hp
  rcases ite_eq h with ⟨-, h⟩ | ⟨-, h⟩
  · cases h; exact hp
  rcases ite_eq h with ⟨-, h⟩ | ⟨-, h⟩
  · cases h; exact hz
  exact dedupeJuncts_typed ho h hphi hp hq

theorem simpComparison_typed {phi : Expr} {op : String} {a b r : Expr} (h : simpComparison phi op a b = .ok r)
    (hphi : TypedAs T.BOOL phi) : TypedAs T.BOOL r := by
  cases simpComparison_ok h with
  | lits _ _ hr => cases hr; exact litBool_typed _
  | differentEq _ _ hr => cases hr; exact falseLit_typed
  | differentNe _ _ hr => cases hr; exact trueLit_typed
  | same hr => cases hr; exact hphi

theorem simpAddition_typed {expr a b r : Expr} (h : simpAddition expr a b = .ok r) (he : TypedAs T.NUMBER expr)
    (ha : TypedAs T.NUMBER a) (hb : TypedAs T.NUMBER b) : TypedAs T.NUMBER r := by
  cases simpAddition_ok h with
  | rightZero _ _ hr => cases hr; exact ha
  | leftZero _ _ _ hr => cases hr; exact hb
  | fold _ _ hv hl => exact litNumber_typed hl (pyArith_ty hv)
  | opposite _ hl => exact litNumber_typed hl rfl
  | same hr => cases hr; exact he

theorem simpSubtraction_typed {expr a b r : Expr} (h : simpSubtraction expr a b = .ok r) (he : TypedAs T.NUMBER expr)
    (ha : TypedAs T.NUMBER a) (hb : TypedAs T.NUMBER b) : TypedAs T.NUMBER r := by
  cases simpSubtraction_ok h with
  | rightZero _ _ hr => cases hr; exact ha
  | fold _ _ hv hl => exact litNumber_typed hl (pyArith_ty hv)
  | equal _ hl => exact litNumber_typed hl rfl
  | minusNeg hb' hmk hs =>
    cases hb'
    have hwe := mkBin_arith (by decide) hmk ha.wt (WT_un_inv hb.wt)
    obtain ⟨-, ha', hb'⟩ := arith_tys (by decide) hwe.wt
    exact simpAddition_typed hs hwe ha' hb'
  | same hr => cases hr; exact he

theorem simpDivision_typed {expr a b r : Expr} (h : simpDivision expr a b = .ok r) (he : TypedAs T.NUMBER expr)
    (ha : TypedAs T.NUMBER a) : TypedAs T.NUMBER r := by
  cases simpDivision_ok h with
  | rightOne _ _ _ hr => cases hr; exact ha
  | leftZero _ _ _ _ hr => cases hr; exact ha
  | fold _ _ _ hv hl => exact litNumber_typed hl (pyDiv_ty hv)
  | equal _ hl => exact litNumber_typed hl rfl
  | opposite _ hl => exact litNumber_typed hl rfl
  | same hr => cases hr; exact he

theorem simpExponentiation_typed {expr a b r : Expr} (h : simpExponentiation expr a b = .ok r) (he : TypedAs T.NUMBER expr)
    (ha : TypedAs T.NUMBER a) : TypedAs T.NUMBER r := by
  cases simpExponentiation_ok h with
  | rightOne _ _ hr => cases hr; exact ha
  | rightZero _ _ hl => exact litNumber_typed hl rfl
  | leftUnit _ _ _ _ _ hr => cases hr; exact ha
  | fold _ _ _ _ _ hv hl => exact litNumber_typed hl (pyPow_ty hv)
  | same hr => cases hr; exact he

theorem negationRule_typed {p r : Expr} (h : negationRule p = .ok r) (hp : TypedAs T.BOOL p) : TypedAs T.BOOL r := by
  unfold negationRule at h
  split at h; · cases h; exact falseLit_typed
  split at h; · cases h; exact trueLit_typed
  split at h
  · split at h
    · cases h; exact hp.ty ▸ un_tys hp.wt
    · exact mkNot_typed h hp.wt
  · exact mkNot_typed h hp.wt

theorem negNumberRule_typed {a' r : Expr} (h : negNumberRule a' = .ok r) (hp : TypedAs T.NUMBER a') : TypedAs T.NUMBER r := by
  unfold negNumberRule at h
  split at h
  · obtain ⟨n, hn, h⟩ := bind_ok h
    exact litNumber_typed h (pyNeg_ty hn)
  · split at h
    · split at h
      · cases h; exact hp.ty ▸ un_tys hp.wt
      · exact mkMinus_typed h hp.wt
    · exact mkMinus_typed h hp.wt

/-! ## re-association, multiplication -/

theorem reassoc_typed {op : String} {sb : Expr → M Expr} (hsb : ∀ e r, sb e = .ok r → WT e → WT r) {a b r : Expr}
    (h : reassoc op sb a b = .ok r) (ha : WT a) (hb : WT b) : ∃ d, findBin op = some d ∧ TypedAs d.res r := by
  have re : ∀ {x y n r}, mkBin op x y = .ok n → sb n = .ok r → WT x → WT y → WT r :=
    fun hn hr hx hy => hsb _ _ hr (mkBin_WT hn hx hy)
  have first : ∀ {ta tb a1 a2 b1 b2 x1 x2 y1 y2 a' b'}, a = .bin ta op a1 a2 → b = .bin tb op b1 b2 →
      ReassocFirst op sb a1 a2 b1 b2 a b x1 x2 y1 y2 a' b' → WT x1 ∧ WT x2 ∧ WT y1 ∧ WT y2 ∧ WT a' ∧ WT b' := by
    intro ta tb a1 a2 b1 b2 x1 x2 y1 y2 a' b' hsa hsb' hf
    cases hsa
    cases hsb'
    have wa := WT_bin_inv ha
    have wb := WT_bin_inv hb
    cases hf with
    | swap hna hra hnb hrb => exact ⟨wa.1, wb.1, wb.2, wa.2, re hna hra wa.1 wb.1, re hnb hrb wb.2 wa.2⟩
    | keep => exact ⟨wa.1, wa.2, wb.1, wb.2, ha, hb⟩
  cases reassoc_ok h with
  | keep hm => exact mkBin_typed hm ha hb
  | left hsa hna hra hm =>
    cases hsa
    exact mkBin_typed hm (re hna hra (WT_bin_inv ha).1 hb) (WT_bin_inv ha).2
  | right hsb' hnb hrb hm =>
    cases hsb'
    exact mkBin_typed hm (WT_bin_inv hb).1 (re hnb hrb ha (WT_bin_inv hb).2)
  | both hsa hsb' hf hm =>
    obtain ⟨-, -, -, -, g5, g6⟩ := first hsa hsb' hf
    exact mkBin_typed hm g5 g6
  | bothSwap hsa hsb' hf hna hra hnb hrb hm =>
    obtain ⟨g1, g2, g3, g4, -, -⟩ := first hsa hsb' hf
    exact mkBin_typed hm (re hna hra g3 g1) (re hnb hrb g2 g4)

theorem simpMultiplication_typed (f : Nat) (ihN : ∀ e a r, simpNeg f e a = .ok r → TypedAs T.NUMBER a → TypedAs T.NUMBER r)
    {expr a b r : Expr} (h : simpMultiplication (f + 1) expr a b = .ok r) (he : TypedAs T.NUMBER expr) (ha : TypedAs T.NUMBER a)
    (hb : TypedAs T.NUMBER b) : TypedAs T.NUMBER r := by
  cases simpMultiplication_ok h with
  | rightOne _ _ hr => cases hr; exact ha
  | rightZero _ _ hr => cases hr; exact hb
  | leftOne _ _ hr => cases hr; exact hb
  | leftZero _ _ hr => cases hr; exact ha
  | fold _ _ hv h => exact litNumber_typed h (pyArith_ty hv)
  | minusOne _ _ hm h =>
    have hm' := mkMinus_typed hm ha.wt
    exact ihN _ _ _ h (hm'.ty ▸ un_tys hm'.wt)
  | cancelLeft hd _ =>
    cases hd
    exact (arith_tys (by decide) ha.wt).2.1
  | cancelRight hd _ =>
    cases hd
    exact (arith_tys (by decide) hb.wt).2.1
  | same hr => cases hr; exact he

/-! ## function calls -/

theorem foldlM_pyArith_ty {f : Rat → Rat → Rat} : ∀ (l : List LitVal) (init v : LitVal),
    l.foldlM (pyArith f) init = .ok v → init.ty = T.NUMBER → v.ty = T.NUMBER
  | [], init, v, h, hi => by cases h; exact hi
  | x :: l, init, v, h, _ => by
      rw [List.foldlM_cons] at h
      obtain ⟨acc, hacc, h⟩ := bind_ok h
      exact foldlM_pyArith_ty l acc v h (pyArith_ty hacc)

theorem foldlM_choose_mem {P : LitVal → Prop} (c : LitVal → LitVal → M Bool) (flip : Bool) : ∀ (l : List LitVal) (init v : LitVal),
    l.foldlM (fun acc x => do let lt ← (if flip then c x acc else c acc x); pure (if lt then x else acc)) init = .ok v →
    P init → (∀ x ∈ l, P x) → P v
  | [], init, v, h, hi, _ => by cases h; exact hi
  | x :: l, init, v, h, hi, hl => by
      rw [List.foldlM_cons] at h
      obtain ⟨acc, hacc, h⟩ := bind_ok h
      obtain ⟨lt, -, hacc⟩ := bind_ok hacc
      obtain ⟨hx, hl⟩ := List.forall_mem_cons.1 hl
      refine foldlM_choose_mem c flip l acc v h ?_ hl
      cases hacc
      split
      · exact hx
      · exact hi

theorem minMaxVal_mem {P : LitVal → Prop} {isMax : Bool} {l : List LitVal} {v : LitVal}
    (h : (if isMax then maxVal l else minVal l) = .ok v) (hl : ∀ x ∈ l, P x) : P v := by
  cases l with
  | nil => cases isMax <;> cases h
  | cons x xs =>
    obtain ⟨hx, hl⟩ := List.forall_mem_cons.1 hl
    cases isMax
    · exact foldlM_choose_mem (P := P) pyLt true xs x v h hx hl
    · exact foldlM_choose_mem (P := P) pyLt false xs x v h hx hl

theorem splitLits_spec : ∀ (l : List Expr), (∀ e ∈ l, WT e) →
    (∀ e ∈ (splitLits l).1, WT e) ∧ (∀ v ∈ (splitLits l).2, v.ty = T.NUMBER)
  | [], _ => ⟨nofun, nofun⟩
  | e :: es, h => by
      obtain ⟨he, hes⟩ := List.forall_mem_cons.1 h
      obtain ⟨ih1, ih2⟩ := splitLits_spec es hes
      rw [splitLits]
      cases hn : numLit? e with
      | some v => exact ⟨ih1, List.forall_mem_cons.2 ⟨numLit_ty hn he, ih2⟩⟩
      | none => exact ⟨List.forall_mem_cons.2 ⟨he, ih1⟩, ih2⟩

theorem funs_result : ∀ d ∈ Gen.funs,
    (d.name = "bool" → d.result = T.BOOL) ∧ (d.name = "str" → d.result = T.STRING) ∧
    (d.name ≠ "bool" → d.name ≠ "str" → d.result = T.NUMBER) := by decide

theorem findFun_result {fn : String} {d : FunDef} (hd : findFun fn = some d) :
    (fn = "bool" → d.result = T.BOOL) ∧ (fn = "str" → d.result = T.STRING) ∧ (fn ≠ "bool" → fn ≠ "str" → d.result = T.NUMBER) := by
  have ht := List.find?_some hd
  cases eq_of_beq ht
  exact funs_result d (List.mem_of_find?_eq_some hd)

theorem mkCall_typed {fn : String} {args : ExprList} {r : Expr} (h : mkCall fn args = .ok r) (ha : WTList args) :
    ∃ d, findFun fn = some d ∧ TypedAs d.result r := by
  obtain ⟨d, s, args', hd, -, -, hr⟩ := mkCall_ok h
  exact ⟨d, hd, mkCall_WT h ha, hr ▸ rfl⟩

theorem foldMinMax_typed {call : Expr} {fn : String} {isMax : Bool} {values : List Expr} {r : Expr} {d : FunDef}
    (h : foldMinMax call fn isMax values = .ok r) (hc : TypedAs T.NUMBER call) (hd : findFun fn = some d) (hn : d.result = T.NUMBER)
    (hv : ∀ e ∈ values, WT e) : TypedAs T.NUMBER r := by
  obtain ⟨hvars, hlits⟩ := splitLits_spec values hv
  unfold foldMinMax at h
  simp only at h
  split at h
  · cases h; exact hc
  · obtain ⟨m, hm, h⟩ := bind_ok h
    obtain ⟨n, hn', h⟩ := bind_ok h
    have hwn := litNumber_typed hn' (minMaxVal_mem (P := fun v => v.ty = T.NUMBER) hm hlits)
    split at h
    · cases h; exact hwn
    · obtain ⟨d', hd', hr⟩ := mkCall_typed h
        (WTList_ofList (List.forall_mem_append.2 ⟨hvars, List.forall_mem_singleton.2 hwn.wt⟩))
      cases hd.symm.trans hd'
      exact hn ▸ hr

theorem pyFloatOfStr_ty {s : String} {v : LitVal} (h : pyFloatOfStr s = .ok v) : v.ty = T.NUMBER := by
  rcases ite_eq h with ⟨-, h⟩ | ⟨-, h⟩
  · cases h; rfl
  rcases ite_eq h with ⟨-, h⟩ | ⟨-, h⟩
  · cases h; rfl
  rcases ite_eq h with ⟨-, h⟩ | ⟨-, h⟩
  · cases h; rfl
  rcases ite_eq h with ⟨-, h⟩ | ⟨-, h⟩
  · split at h
    · cases h; rfl
    · cases h
  rcases ite_eq h with ⟨-, h⟩ | ⟨-, h⟩ <;> cases h

theorem minMaxRule_typed {f : Nat} (ihS : ∀ e r, simp f e = .ok r → WT e → WT r) {call : Expr} {fn : String} {args : ExprList}
    {r : Expr} {d : FunDef} (h : minMaxRule f call fn args = .ok r) (hc : TypedAs T.NUMBER call) (hd : findFun fn = some d)
    (hn : d.result = T.NUMBER) (hargs : WTList args) : TypedAs T.NUMBER r := by
  unfold minMaxRule at h
  split at h
  · obtain ⟨a, ha, h⟩ := bind_ok h
    have hwa : WT a := ihS _ _ ha hargs.1
    split at h
    · split at h
      · obtain ⟨li, -, h⟩ := bind_ok h
        obtain ⟨hi', -, h⟩ := bind_ok h
        rcases ite_eq h with ⟨-, h⟩ | ⟨-, h⟩
        · exact litNumber_typed h rfl
        · cases h; exact hc
      · cases h; exact hc
    · exact foldMinMax_typed h hc hd hn (WTList_mem (WT_set_inv hwa))
    · cases h; exact hc
  · exact foldMinMax_typed h hc hd hn (WTList_mem hargs)

/-- every result of `_simplify_function_call` is the call itself, a literal of the function's result type, or a re-built
    call to the same function -/
theorem simpCall_typed (f : Nat) (ihS : ∀ e r, simp f e = .ok r → WT e → WT r) {t : DataType} {fn : String} {args : ExprList}
    {r : Expr} (h : simpCall (f + 1) (.call t fn args) fn args = .ok r) (hc : WT (.call t fn args)) : TypedAs t r := by
  have keep : TypedAs t (.call t fn args) := ⟨hc, rfl⟩
  obtain ⟨d, hd, rfl, hargs, -⟩ := hc
  obtain ⟨hbool, hstr, hnum⟩ := findFun_result hd
  -- the rules on one argument: the call is kept unless the argument is a literal (`sel`)
  have onArg : ∀ {sel : Expr → Option LitVal} {X : LitVal → M Expr}, (∀ v, X v = .ok r → TypedAs d.result r) →
      (do let a ← simpArg0 f args; match sel a with | some v => X v | none => pure (.call d.result fn args)) = .ok r →
      TypedAs d.result r := by
    intro sel X hX h
    obtain ⟨a, -, h⟩ := bind_ok h
    generalize sel a = o at h
    cases o with
    | none => cases h; exact keep
    | some v => exact hX v h
  by_cases hb : fn = "bool"
  · cases hb
    rw [hbool rfl] at h onArg ⊢
    rw [simpCall_bool] at h
    exact onArg (fun _ h => by cases h; exact litBool_typed _) h
  by_cases hs : fn = "str"
  · cases hs
    rw [hstr rfl] at h onArg ⊢
    rw [simpCall_str] at h
    refine onArg (fun v h => ?_) h
    obtain ⟨sv, -, h⟩ := bind_ok h
    rcases ite_eq h with ⟨-, h⟩ | ⟨-, h⟩ <;> cases h
    exact ⟨rfl, rfl⟩
  have hres := hnum hb hs
  rw [hres] at h keep onArg ⊢
  by_cases hn : fn ∈ ["abs", "int", "float", "len", "sum", "prod", "max", "min", "gcd", "ceil", "floor"]
  · simp only [List.mem_cons, List.not_mem_nil, or_false] at hn
    rcases hn with rfl | rfl | rfl | rfl | rfl | rfl | rfl | rfl | rfl | rfl | rfl
    · rw [simpCall_abs] at h
      refine onArg (fun v h => ?_) h
      obtain ⟨v', hv, h⟩ := bind_ok h
      exact litNumber_typed h (pyAbs_ty hv)
    · rw [simpCall_int] at h
      refine onArg (fun v h => ?_) h
      obtain ⟨n, -, h⟩ := bind_ok h
      exact litNumber_typed h rfl
    · rw [simpCall_float] at h
      obtain ⟨a, -, h⟩ := bind_ok h
      split at h
      · obtain ⟨v, hv, h⟩ := bind_ok h
        exact litNumber_typed h (pyFloatOfStr_ty hv)
      · rename_i v hnstr _
        split at h
        · exact litNumber_typed h rfl
        · rename_i hnone
          refine litNumber_typed h ?_
          cases v with
          | str sv => exact (hnstr sv rfl).elim
          | int _ | flt _ | bool _ => simp [LitVal.toRat?] at hnone
          | inf | ninf | nan => rfl
      · cases h; exact keep
    · rw [simpCall_len] at h
      obtain ⟨a, -, h⟩ := bind_ok h
      split at h
      · split at h
        · exact litNumber_typed h rfl
        · cases h; exact keep
      · split at h
        · obtain ⟨⟨lb, ub⟩, -, h⟩ := bind_ok h
          exact litNumber_typed h rfl
        · cases h; exact keep
      · exact litNumber_typed h rfl
      · cases h; exact keep
    · rw [simpCall_sum] at h
      obtain ⟨a, -, h⟩ := bind_ok h
      split at h
      · split at h
        · obtain ⟨v, hv, h⟩ := bind_ok h
          exact litNumber_typed h (foldlM_pyArith_ty _ _ _ hv rfl)
        · cases h; exact keep
      · split at h
        · obtain ⟨⟨lb, ub⟩, -, h⟩ := bind_ok h
          exact litNumber_typed h rfl
        · cases h; exact keep
      · cases h; exact keep
    · rw [simpCall_prod] at h
      obtain ⟨a, -, h⟩ := bind_ok h
      split at h
      · split at h
        · exact litNumber_typed h rfl
        · split at h
          · obtain ⟨v, hv, h⟩ := bind_ok h
            exact litNumber_typed h (foldlM_pyArith_ty _ _ _ hv rfl)
          · cases h; exact keep
      · split at h
        · obtain ⟨⟨lb, ub⟩, -, h⟩ := bind_ok h
          rcases ite_eq h with ⟨-, h⟩ | ⟨-, h⟩
          · cases h
          · exact litNumber_typed h rfl
        · cases h; exact keep
      · cases h; exact keep
    · rw [simpCall_max] at h
      exact minMaxRule_typed ihS h keep hd hres hargs
    · rw [simpCall_min] at h
      exact minMaxRule_typed ihS h keep hd hres hargs
    · rw [simpCall_gcd] at h
      split at h
      · obtain ⟨x, -, h⟩ := bind_ok h
        obtain ⟨y, -, h⟩ := bind_ok h
        split at h
        · exact litNumber_typed h rfl
        · cases h
        · cases h; exact keep
      · cases h; exact keep
    · rw [simpCall_ceil] at h
      refine onArg (fun v h => ?_) h
      generalize v.toRat? = q at h
      cases q with
      | none => cases h
      | some q => exact litNumber_typed h rfl
    · rw [simpCall_floor] at h
      refine onArg (fun v h => ?_) h
      generalize v.toRat? = q at h
      cases q with
      | none => cases h
      | some q => exact litNumber_typed h rfl
  by_cases ho : fn ∈ opaqueFuns
  · rw [simpCall_opaque _ _ _ ho] at h
    exact onArg (fun _ h => by cases h) h
  by_cases h2 : fn = "atan2" ∨ fn = "log"
  · rw [simpCall_two _ _ _ h2] at h
    split at h
    · obtain ⟨x, -, h⟩ := bind_ok h
      obtain ⟨y, -, h⟩ := bind_ok h
      split at h
      · cases h
      · cases h; exact keep
    · cases h
  have hfn : fn ∉ foldedFuns := by
    simp only [List.mem_cons, List.not_mem_nil, or_false, not_or] at hn h2
    simp [foldedFuns, hn, hb, hs, ho, h2]
  rw [simpCall_other f _ _ hfn] at h
  cases h
  exact keep

/-! ## the recursion -/

/-- the invariant at fuel `f`, one field per model function: `simp`, `simpList`, `simpNeg`, `simpBinop`, `simpMultiplication`,
    `preBinop`, `simpCall` -/
structure TypedAt (f : Nat) : Prop where
  tS : ∀ e r, simp f e = .ok r → WT e → TypedAs e.ty r
  tL : ∀ es rs, simpList f es = .ok rs → WTList es → WTList rs
  tN : ∀ e a r, simpNeg f e a = .ok r → TypedAs T.NUMBER a → TypedAs T.NUMBER r
  tB : ∀ e r, simpBinop f e = .ok r → WT e → TypedAs e.ty r
  tM : ∀ expr a b r, simpMultiplication f expr a b = .ok r → TypedAs T.NUMBER expr → TypedAs T.NUMBER a → TypedAs T.NUMBER b →
    TypedAs T.NUMBER r
  tP : ∀ e r, preBinop f e = .ok r → WT e → TypedAs e.ty r
  tC : ∀ t fn args r, simpCall f (.call t fn args) fn args = .ok r → WT (.call t fn args) → TypedAs t r

theorem typedAt_zero : TypedAt 0 := ⟨nofun, nofun, nofun, nofun, nofun, nofun, nofun⟩

theorem typedAt : ∀ f, TypedAt f
  | 0 => typedAt_zero
  | f + 1 =>
    have ih := typedAt f
    { tS := by
        intro e r h hw
        cases simp_ok h with
        | not hp hr =>
          cases not_ty hw
          have ha := un_tys hw
          exact negationRule_typed hr (ha.trans (ih.tS _ _ hp ha.wt))
        | neg hr =>
          cases neg_ty hw
          exact ih.tN _ _ _ hr (un_tys hw)
        | bin hr => exact ih.tB _ _ hr hw
        | call hr => exact ih.tC _ _ _ _ hr hw
        | setDedup hvs hr =>
          cases hw.1
          have hl := ih.tL _ _ hvs (WT_set_inv hw)
          exact mkSet_typed hr (WTList_ofList (fun e he => WTList_mem hl e (mem_eraseDups he)))
        | set hvs hr =>
          cases hw.1
          exact mkSet_typed hr (ih.tL _ _ hvs (WT_set_inv hw))
        | range hlo hhi hr =>
          cases hw.1
          exact mkRange_typed hr (ih.tS _ _ hlo hw.2.1).wt (ih.tS _ _ hhi hw.2.2.1).wt
        | same => exact ⟨hw, rfl⟩
      tL := by
        intro es rs h hw
        cases es with
        | nil => cases simpList_nil_ok h; trivial
        | cons e es =>
          obtain ⟨e', es', he', hes', rfl⟩ := simpList_cons_ok h
          exact ⟨(ih.tS _ _ he' hw.1).wt, ih.tL _ _ hes' hw.2⟩
      tN := by
        intro e a r h ha
        obtain ⟨a', ha', h⟩ := simpNeg_ok h
        exact negNumberRule_typed h (ha.trans (ih.tS _ _ ha' ha.wt))
      tB := by
        intro e r h hw
        obtain ⟨t, op, a, b, he', hs⟩ := simpBinop_ok h
        refine (ih.tP _ _ he' hw).trans ?_
        have hw' := (ih.tP _ _ he' hw).wt
        show TypedAs t r
        cases hs with
        | conj h =>
          obtain ⟨rfl, ha, hb⟩ := logic_tys (by decide) hw'
          exact junction_typed (zero := isFalseLit) (unit := isTrueLit) (by decide) falseLit_typed h ⟨hw', rfl⟩ ha hb
        | disj h =>
          obtain ⟨rfl, ha, hb⟩ := logic_tys (by decide) hw'
          exact junction_typed (zero := isTrueLit) (unit := isFalseLit) (by decide) trueLit_typed h ⟨hw', rfl⟩ ha hb
        | implSelf _ hr =>
          cases hr
          cases (logic_tys (by decide) hw').1
          exact trueLit_typed
        | impl _ hna hd h =>
          obtain ⟨rfl, ha, hb⟩ := logic_tys (by decide) hw'
          have hd' := mkBin_logic (op := "or") (by decide) hd (mkNot_WT hna ha.wt) hb.wt
          exact hd'.trans (ih.tS _ _ h hd'.wt)
        | iff h =>
          obtain ⟨rfl, ha, hb⟩ := logic_tys (by decide) hw'
          split at h; · cases h; exact trueLit_typed
          split at h; · cases h; exact falseLit_typed
          obtain ⟨i1, h1, h⟩ := bind_ok h
          obtain ⟨i2, h2, h⟩ := bind_ok h
          obtain ⟨c, hc, h⟩ := bind_ok h
          have hc' := mkBin_logic (op := "and") (by decide) hc (mkBin_WT h1 ha.wt hb.wt) (mkBin_WT h2 hb.wt ha.wt)
          exact hc'.trans (ih.tS _ _ h hc'.wt)
        | cmp ho h =>
          have hc : isCmp op = true := by
            rcases ho with rfl | rfl | rfl | rfl | rfl | rfl <;> rfl
          cases cmp_ty hc hw'
          exact simpComparison_typed h ⟨hw', rfl⟩
        | add h =>
          obtain ⟨rfl, ha, hb⟩ := arith_tys (by decide) hw'
          exact simpAddition_typed h ⟨hw', rfl⟩ ha hb
        | sub h =>
          obtain ⟨rfl, ha, hb⟩ := arith_tys (by decide) hw'
          exact simpSubtraction_typed h ⟨hw', rfl⟩ ha hb
        | mul h =>
          obtain ⟨rfl, ha, hb⟩ := arith_tys (by decide) hw'
          exact ih.tM _ _ _ _ h ⟨hw', rfl⟩ ha hb
        | div h =>
          obtain ⟨rfl, ha, -⟩ := arith_tys (by decide) hw'
          exact simpDivision_typed h ⟨hw', rfl⟩ ha
        | pow h =>
          obtain ⟨rfl, ha, -⟩ := arith_tys (by decide) hw'
          exact simpExponentiation_typed h ⟨hw', rfl⟩ ha
        | other hr => cases hr; exact ⟨hw', rfl⟩
      tM := fun _ _ _ _ h he ha hb => simpMultiplication_typed f ih.tN h he ha hb
      tP := by
        intro e r h hw
        obtain ⟨t, op, x, y, a, b, rfl, ha, hb, hs⟩ := preBinop_ok h
        have wxy := WT_bin_inv hw
        have pa := (ih.tS _ _ ha wxy.1).wt
        have pb := (ih.tS _ _ hb wxy.2).wt
        obtain ⟨d, hd, ht, -⟩ := hw
        show TypedAs t r
        have same : ∀ {r}, (∃ d, findBin op = some d ∧ TypedAs d.res r) → TypedAs t r := by
          intro r ⟨d', hd', hr⟩
          cases hd.symm.trans hd'
          exact ht ▸ hr
        cases hs with
        | keep h => exact same (mkBin_typed h pa pb)
        | comm _ _ h => exact same (mkBin_typed h pb pa)
        | @inverse d' inv hd' hc hi h =>
          cases hd.symm.trans hd'
          obtain ⟨d2, hd2, hr⟩ := mkBin_typed h pb pa
          rcases inverseOps_res _ (lookup_mem hi) with hp | hres
          · cases (show op = inv from hp)
            cases hd.symm.trans hd2
            exact ht ▸ hr
          · simp only [hd, hd2, Option.map_some, Option.some.injEq] at hres
            rw [ht, hres]
            exact hr
        | reassoc _ _ h => exact same (reassoc_typed (fun e r h hw => (ih.tB e r h hw).wt) h pa pb)
      tC := fun _ _ _ _ h hc => simpCall_typed f (fun e r h hw => (ih.tS e r h hw).wt) h hc }

theorem simplify_typed {e r : Expr} (h : simplifyExpr e = .ok r) (hw : WT e) : TypedAs e.ty r := (typedAt _).tS _ _ h hw

/-- **C03 for the simplifier**: `simplify` maps well-typed expressions to well-typed expressions -/
theorem simplify_WT (e r : Expr) (h : simplifyExpr e = .ok r) (hw : WT e) : WT r := (simplify_typed h hw).wt

/-- … and well-typed predicates to well-typed predicates -/
theorem simplifyPred_WT (p q : Pred) (h : simplifyPred p = .ok q) (hw : WTPred p) : WTPred q := by
  cases p with
  | expr e =>
    obtain ⟨e', he', h⟩ := bind_ok h
    rcases ite_eq h with ⟨-, h⟩ | ⟨-, h⟩
    · cases h; trivial
    rcases ite_eq h with ⟨-, h⟩ | ⟨-, h⟩
    · cases h; trivial
    · exact mkPred_WT h (simplify_WT e e' he' hw.1)
  | vtrue => cases h; trivial
  | vfalse => cases h; trivial

end Hpl
