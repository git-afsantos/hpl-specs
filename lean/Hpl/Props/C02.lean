import Hpl.Model.Build
import Hpl.Spec.Scoping
import Hpl.Props.C15
import Hpl.Props.C03
/-!
# C02 — a property is accepted iff every alias reference is bound earlier, once

Model: `sanityCheck` and its helpers, `mkDisj`, `mkQuant`, `mkProperty` in `Hpl/Model/Build.lean`.
Spec: `WellScoped` in `Hpl/Spec/Scoping.lean` (free references per event from `Event.freeRefs`).

Reading of clause (ii): a name bound in two *alternatives of one disjunction* is not "bound a second time along the
chain" (the code accepts it; alternatives are parallel) — `Bound` only compares an event's aliases with the aliases
available *before* it.
-/
namespace Hpl

/-- what the constructors guarantee about an event's predicates (C15 `quantOK`) and aliases (grammar: `CNAME`) -/
def EvOK (e : Event) : Prop := e.quantOK ∧ ∀ a ∈ e.aliases, a ≠ ""

theorem ite_ok_iff {α : Type} {c : Prop} [Decidable c] {v r : α} {x : Err} :
    (if c then (.ok v : M α) else .error x) = .ok r ↔ c ∧ r = v := by
  by_cases hc : c
  · rw [if_pos hc]; exact ⟨fun h => ⟨hc, (Except.ok.inj h).symm⟩, fun h => h.2 ▸ rfl⟩
  · rw [if_neg hc]; exact ⟨nofun, fun h => absurd h.1 hc⟩

theorem checkRefsDefined_ok (e : Event) (h : EvOK e) (avail : List String) :
    checkRefsDefined e avail = .ok () ↔ ∀ r ∈ e.freeRefs, r ∈ avail := by
  unfold checkRefsDefined
  rw [Event.externalRefs_eq e h.1 h.2]
  show (if _ then (.ok () : M Unit) else .error .sanity) = .ok () ↔ _
  simp only [ite_ok_iff, and_true, List.all_eq_true, List.contains_iff_mem]

theorem checkRefsDefined_err (e : Event) (h : EvOK e) (avail : List String) (x : Err)
    (hx : checkRefsDefined e avail = .error x) : x = .sanity := by
  unfold checkRefsDefined at hx
  rw [Event.externalRefs_eq e h.1 h.2] at hx
  rcases ite_eq hx with ⟨_, hx⟩ | ⟨_, hx⟩ <;> cases hx
  rfl

theorem checkDuplicates_ok (als avail : List String) :
    checkDuplicates als avail = .ok () ↔ ∀ a ∈ als, a ∉ avail := by
  unfold checkDuplicates
  rw [← ite_not, ite_ok_iff]
  simp only [and_true, List.any_eq_true, List.contains_iff_mem, not_exists, not_and]

theorem checkEvent_ok (e : Event) (he : EvOK e) (avail : List String) (r : List String) :
    checkEvent e avail = .ok r ↔ Bound e avail ∧ r = e.aliases ++ avail := by
  unfold checkEvent Bound
  simp only [seq_ok_iff, checkRefsDefined_ok e he, checkDuplicates_ok, pure_eq_ok, Except.ok.injEq, and_assoc, eq_comm (a := r)]

theorem checkActivator_ok (s : Scope) (hs : ∀ a, s.activator = some a → EvOK a) (r : List String) :
    checkActivator s = .ok r ↔ (∀ a, s.activator = some a → ∀ x ∈ a.freeRefs, False) ∧ r = actAliases s := by
  unfold checkActivator actAliases
  cases h : s.activator with
  | none => simp [pure, Except.pure, eq_comm]
  | some a =>
    simp only [seq_ok_iff, checkRefsDefined_ok a (hs a h), pure_eq_ok, Except.ok.injEq, Option.some.injEq, forall_eq',
      List.not_mem_nil, eq_comm (a := r)]

theorem checkTerminator_ok (s : Scope) (hs : ∀ q, s.terminator = some q → EvOK q) (avail : List String) :
    checkTerminator s avail = .ok () ↔ ∀ q, s.terminator = some q → Bound q avail := by
  unfold checkTerminator Bound
  cases h : s.terminator with
  | none => simp [pure, Except.pure]
  | some q => simp only [seq_ok_iff, checkRefsDefined_ok q (hs q h), checkDuplicates_ok, Option.some.injEq, forall_eq']

theorem checkEvent1_ok (e : Event) (he : EvOK e) (avail : List String) :
    (do let _ ← checkEvent e avail; (pure () : M Unit)) = .ok () ↔ Bound e avail := by
  simp only [bind_ok_iff, checkEvent_ok e he, pure_eq_ok, and_true, exists_and_left, exists_eq]

theorem checkEvent2_ok (e1 e2 : Event) (h1 : EvOK e1) (h2 : EvOK e2) (avail : List String) :
    (do let als ← checkEvent e1 avail; let _ ← checkEvent e2 als; (pure () : M Unit)) = .ok () ↔
      Bound e1 avail ∧ Bound e2 (e1.aliases ++ avail) := by
  simp only [bind_ok_iff, checkEvent_ok e1 h1, checkEvent_ok e2 h2, pure_eq_ok, and_true, exists_and_left, exists_eq,
    exists_eq_left, and_assoc]

/-- every event of the pattern satisfies the constructor guarantees -/
def PatOK (p : Pattern) : Prop := EvOK p.behaviour ∧ ∀ t, p.trigger = some t → EvOK t
def ScopeOK (s : Scope) : Prop := (∀ a, s.activator = some a → EvOK a) ∧ (∀ q, s.terminator = some q → EvOK q)

theorem patternCheck_ok (p : Pattern) (hp : PatOK p) (avail : List String) :
    patternCheck p avail = .ok () ↔ PatternScoped p avail := by
  unfold patternCheck PatternScoped
  obtain ⟨hb, ht⟩ := hp
  cases hk : p.kind <;> cases htg : p.trigger
  case absence.none | absence.some | existence.none | existence.some => exact checkEvent1_ok _ hb _
  case requirement.some => exact checkEvent2_ok _ _ hb (ht _ htg) _
  case response.some | prevention.some => exact checkEvent2_ok _ _ (ht _ htg) hb _
  case requirement.none | response.none | prevention.none => exact ⟨nofun, False.elim⟩

/-- **C02 (i)+(ii)**: the sanity check accepts exactly the well-scoped scope/pattern pairs -/
theorem sanityCheck_ok_iff (s : Scope) (p : Pattern) (hs : ScopeOK s) (hp : PatOK p) :
    sanityCheck s p = .ok () ↔ WellScoped s p := by
  unfold sanityCheck WellScoped
  simp only [bind_ok_iff, checkActivator_ok s hs.1, patternCheck_ok p hp, checkTerminator_ok s hs.2, and_assoc,
    exists_and_left, exists_eq_left, exists_const]

/-- **C02**: no `Property` value comes into being without passing the check (parser, API and `but` all go through
    `mkProperty` / `butProp`, which run `sanityCheck` first) -/
theorem mkProperty_ok_iff (s : Scope) (p : Pattern) (md : List (String × String)) (r : Property) :
    mkProperty s p md = .ok r ↔ sanityCheck s p = .ok () ∧ r = ⟨s, p, md⟩ := by
  unfold mkProperty
  simp only [seq_ok_iff, pure_eq_ok, Except.ok.injEq, eq_comm (a := r)]

theorem mkProperty_wellScoped (s : Scope) (p : Pattern) (md : List (String × String)) (r : Property)
    (hs : ScopeOK s) (hp : PatOK p) (h : mkProperty s p md = .ok r) : WellScoped r.scope r.pattern := by
  obtain ⟨h1, rfl⟩ := (mkProperty_ok_iff s p md r).1 h
  exact (sanityCheck_ok_iff s p hs hp).1 h1

/-- **C02 (iii)**: a disjunction is accepted iff no channel occurs twice among its flattened alternatives -/
theorem mkDisj_ok_iff (a b e : Event) : mkDisj a b = .ok e ↔ (a.names ++ b.names).Nodup ∧ e = .disj a b :=
  ite_ok_iff

theorem mkDisj_err (a b : Event) (x : Err) (h : mkDisj a b = .error x) : x = .sanity := by
  unfold mkDisj at h; simp only at h; split at h <;> cases h; rfl

theorem quantBodyCheck_no_rebind (x : String) (t : DataType) : ∀ (l : List Expr) (used n : Nat),
    quantBodyCheck x t l used = .ok n → (∀ v ∈ l, bindsName x v = false) ∧ n = used + (l.filter (isVarNamed x)).length :=
  fun l used n h => ⟨fun v hv => ((quantBodyCheck_spec x t l used n h).1 v hv).1, (quantBodyCheck_spec x t l used n h).2⟩

/-- **C02 (iv)**: an accepted quantifier does not use its variable in its own domain, is not nested over a quantifier
    binding the same name, and uses its variable in its body -/
theorem mkQuant_hygiene {q : Quant} {x : String} {dom body e : Expr} (h : mkQuant q x dom body = .ok e) :
    ∃ d b, e = .quant T.BOOL q x d b ∧
      d.preorder.any (isVarNamed x) = false ∧           -- not used in its own domain
      (∀ v ∈ b.preorder, bindsName x v = false) ∧       -- not re-bound inside
      b.preorder.any (isVarNamed x) = true := by         -- used in the body
  obtain ⟨d, b, used, _, _, hdom, hused, hne, rfl⟩ := mkQuant_ok h
  obtain ⟨h1, h2⟩ := quantBodyCheck_no_rebind x _ _ _ _ hused
  refine ⟨d, b, rfl, hdom, h1, ?_⟩
  obtain ⟨v, hv⟩ := List.exists_mem_of_length_pos (l := b.preorder.filter (isVarNamed x)) (by omega)
  obtain ⟨hv1, hv2⟩ := List.mem_filter.1 hv
  exact List.any_eq_true.2 ⟨v, hv1, hv2⟩

/-! error classes of the property-level checks: only sanity errors on constructor-built events -/
theorem checkDuplicates_err (als avail : List String) (y : Err) (h : checkDuplicates als avail = .error y) : y = .sanity := by
  unfold checkDuplicates at h; split at h <;> cases h; rfl

theorem checkEvent_err (e : Event) (he : EvOK e) (avail : List String) (y : Err) (h : checkEvent e avail = .error y) :
    y = .sanity :=
  bind_err_class (· = .sanity) (checkRefsDefined_err e he avail y)
    (fun _ => bind_err_class (· = .sanity) (checkDuplicates_err _ _ y) (fun _ h => by cases h)) h

theorem patternCheck_err (p : Pattern) (hp : PatOK p) (htrig : p.kind.hasTrigger = p.trigger.isSome)
    (avail : List String) (y : Err) (h : patternCheck p avail = .error y) : y = .sanity := by
  obtain ⟨hb, ht⟩ := hp
  have one : ∀ {e : Event} {avail}, EvOK e → (do let _ ← checkEvent e avail; (pure () : M Unit)) = .error y → y = .sanity :=
    fun he => bind_err_class (· = .sanity) (checkEvent_err _ he _ y) (fun _ h => by cases h)
  have two : ∀ {e1 e2 : Event} {avail}, EvOK e1 → EvOK e2 →
      (do let als ← checkEvent e1 avail; let _ ← checkEvent e2 als; (pure () : M Unit)) = .error y → y = .sanity :=
    fun h1 h2 => bind_err_class (· = .sanity) (checkEvent_err _ h1 _ y) (fun _ => one h2)
  unfold patternCheck at h
  cases hk : p.kind <;> cases htg : p.trigger <;> rw [hk, htg] at h htrig
  case absence.none | absence.some | existence.none | existence.some => exact one hb h
  case requirement.some => exact two hb (ht _ htg) h
  case response.some | prevention.some => exact two (ht _ htg) hb h
  case requirement.none | response.none | prevention.none => cases htrig

theorem sanityCheck_err (s : Scope) (p : Pattern) (hs : ScopeOK s) (hp : PatOK p)
    (htrig : p.kind.hasTrigger = p.trigger.isSome) (x : Err) (h : sanityCheck s p = .error x) : x = .sanity := by
  unfold sanityCheck at h
  refine bind_err_class (· = .sanity) (fun h1 => ?_) (fun _ => bind_err_class (· = .sanity) (patternCheck_err p hp htrig _ x) (fun _ h2 => ?_)) h
  · unfold checkActivator at h1
    cases hact : s.activator with
    | none => rw [hact] at h1; cases h1
    | some a =>
      rw [hact] at h1
      exact bind_err_class (· = .sanity) (checkRefsDefined_err a (hs.1 a hact) [] x) (fun _ h => by cases h) h1
  · unfold checkTerminator at h2
    cases hterm : s.terminator with
    | none => rw [hterm] at h2; cases h2
    | some q =>
      rw [hterm] at h2
      exact bind_err_class (· = .sanity) (checkRefsDefined_err q (hs.2 q hterm) _ x) (fun _ => checkDuplicates_err _ _ x) h2

/-! ## the executable decider used to judge the implementation agrees with the declarative judgement -/
theorem boundB_iff (e : Event) (avail : List String) : boundB e avail = true ↔ Bound e avail := by
  simp [boundB, Bound, List.all_eq_true]

theorem patternScopedB_iff (p : Pattern) (avail : List String) : patternScopedB p avail = true ↔ PatternScoped p avail := by
  unfold patternScopedB PatternScoped
  cases p.kind <;> cases p.trigger <;> simp [boundB_iff]

theorem wellScopedB_iff (s : Scope) (p : Pattern) : wellScopedB s p = true ↔ WellScoped s p := by
  unfold wellScopedB WellScoped
  simp only [Bool.and_eq_true, patternScopedB_iff]
  cases ha : s.activator <;> cases ht : s.terminator <;> simp [boundB_iff, List.isEmpty_iff, List.eq_nil_iff_forall_not_mem, and_assoc]

/-! ## non-vacuity: `after a as X until b {@X.f}: c as Y causes d {@X.f and @Y.f}` -/
def refX : Expr := .field T.BOOL (.var T.MESSAGE "X") "f"
def refY : Expr := .field T.BOOL (.var T.MESSAGE "Y") "f"
def exScope : Scope := ⟨.afterUntil, some (.simple "a" (some "X") .vtrue), some (.simple "b" none (.expr refX))⟩
def exPattern : Pattern := ⟨.response, .simple "d" none (.expr (.bin T.BOOL "and" refX refY)), some (.simple "c" (some "Y") .vtrue), 0, none⟩
example : sanityCheck exScope exPattern = .ok () := by rfl
example : sanityCheck exScope { exPattern with kind := .requirement } = .error .sanity := by rfl
example : ScopeOK exScope ∧ PatOK exPattern := by
  simp [ScopeOK, PatOK, EvOK, exScope, exPattern, Event.quantOK, Pred.quantOK, Expr.quantOK, refX, refY, Event.aliases]

end Hpl
