import Hpl.Props.C09c
import Hpl.Model.Rewrite.Refactor
/-!
# C10 — the fuel of the `refactor_reference` model suffices: each recursive call is on a strictly smaller formula
-/
namespace Hpl

theorem internal_ne_fuel {α : Type} {s : String} (h : s ≠ "fuel") : (.error (.internal s) : M α) ≠ .error fuelErr :=
  fun hh => h (Err.internal.inj (Except.error.inj hh))

theorem refQuantAnd_nofuel {alias x : String} {quant d a b : Expr} : refQuantAnd alias x quant d a b ≠ .error fuelErr := by
  intro h
  rcases ite_eq h with ⟨_, h⟩ | ⟨_, h⟩
  · exact bind_ne_fuel splitHalf_nofuel (fun _ _ => bind_ne_fuel splitHalf_nofuel fun _ _ => ok_ne_fuel) h
  · rcases ite_eq h with ⟨_, h⟩ | ⟨_, h⟩
    · exact bind_ne_fuel splitHalf_nofuel (fun _ _ => bind_ne_fuel splitHalf_nofuel fun _ _ => ok_ne_fuel) h
    · rcases ite_eq h with ⟨_, h⟩ | ⟨_, h⟩
      · cases h
      · exact internal_ne_fuel (by decide) h

theorem refAnd_nofuel {alias : String} {op a b : Expr} : refAnd alias op a b ≠ .error fuelErr := by
  intro h
  rcases ite_eq h with ⟨_, h⟩ | ⟨_, h⟩
  · cases h
  · rcases ite_eq h with ⟨_, h⟩ | ⟨_, h⟩
    · cases h
    · rcases ite_eq h with ⟨_, h⟩ | ⟨_, h⟩
      · cases h
      · exact internal_ne_fuel (by decide) h

theorem mkAnd_then_nofuel {α : Type} {a b : Expr} {K : Expr → M α}
    (hK : ∀ t a' b', K (.bin t Gen.AND_OPERATOR a' b') ≠ .error fuelErr) : (mkAnd a b >>= K) ≠ .error fuelErr :=
  bind_ne_fuel mkAnd_nofuel fun c hc => by
    obtain ⟨t, a', b', rfl⟩ := mkBin_shape hc
    exact hK t a' b'

theorem refQuant_nofuel {alias : String} {quant : Expr} : refQuant alias quant ≠ .error fuelErr := by
  intro h
  cases quant with
  | quant t q x d body =>
    rcases ite_eq h with ⟨_, h⟩ | ⟨_, h⟩
    · cases h
    · rcases ite_eq h with ⟨_, h⟩ | ⟨_, h⟩
      · exact internal_ne_fuel (by decide) h
      · cases q with
        | some => cases h
        | all =>
          cases body with
          | bin t2 op a b =>
            rcases ite_eq h with ⟨_, h⟩ | ⟨_, h⟩
            · exact refQuantAnd_nofuel h
            · cases h
          | un t2 op inner =>
            cases inner with
            | bin t3 op2 a b =>
              rcases ite_eq h with ⟨_, h⟩ | ⟨_, h⟩
              · exact absurd h (bind_ne_fuel mkNot_nofuel fun _ _ => bind_ne_fuel mkNot_nofuel fun _ _ =>
                  mkAnd_then_nofuel fun _ _ _ => refQuantAnd_nofuel)
              · cases h
            | _ => cases h
          | _ => cases h
  | _ => exact internal_ne_fuel (by decide) h

theorem refactor_fuel (alias : String) : ∀ f,
    (∀ e, e.size + 1 ≤ f → refExpr alias f e ≠ .error fuelErr) ∧
    (∀ neg e, e.size + 1 ≤ f → refNeg alias f neg e ≠ .error fuelErr) := by
  intro f
  induction f with
  | zero => exact ⟨fun e h => by omega, fun neg e h => by omega⟩
  | succ f ih =>
    obtain ⟨ihE, ihN⟩ := ih
    refine ⟨fun e hf h => ?_, fun neg e hf h => ?_⟩
    · rcases ite_eq h with ⟨_, h⟩ | ⟨_, h⟩
      · cases h
      · rcases ite_eq h with ⟨_, h⟩ | ⟨_, h⟩
        · cases h
        · rcases ite_eq h with ⟨_, h⟩ | ⟨_, h⟩
          · cases h
          · cases e with
            | quant t q x d b => exact refQuant_nofuel h
            | un t op a =>
              rcases ite_eq h with ⟨_, h⟩ | ⟨_, h⟩
              · exact ihN _ a (by rw [Expr.size] at hf; omega) h
              · exact internal_ne_fuel (by decide) h
            | bin t op a b =>
              rcases ite_eq h with ⟨_, h⟩ | ⟨_, h⟩
              · exact refAnd_nofuel h
              · cases h
            | _ => exact type_ne_fuel h
    · rcases ite_eq h with ⟨_, h⟩ | ⟨_, h⟩
      · exact internal_ne_fuel (by decide) h
      · rcases ite_eq h with ⟨_, h⟩ | ⟨_, h⟩
        · cases h
        · cases e with
          | quant t q x d p =>
            cases q with
            | all => cases h
            | some =>
              refine bind_ne_fuel mkNot_nofuel (fun np _ hh => ?_) h
              rcases ite_eq hh with ⟨_, hh⟩ | ⟨_, hh⟩
              · exact bind_ne_fuel mkForall_nofuel (fun _ _ => refQuant_nofuel) hh
              · exact internal_ne_fuel (by decide) hh
          | un t op a =>
            rcases ite_eq h with ⟨_, h⟩ | ⟨_, h⟩
            · exact ihE a (by rw [Expr.size] at hf; omega) h
            · cases h
          | bin t op a b =>
            rcases ite_eq h with ⟨_, h⟩ | ⟨_, h⟩
            · exact absurd h (bind_ne_fuel mkNot_nofuel fun _ _ => mkAnd_then_nofuel fun _ _ _ => refAnd_nofuel)
            · rcases ite_eq h with ⟨_, h⟩ | ⟨_, h⟩
              · exact absurd h (bind_ne_fuel mkNot_nofuel fun _ _ => bind_ne_fuel mkNot_nofuel fun _ _ =>
                  mkAnd_then_nofuel fun _ _ _ => refAnd_nofuel)
              · cases h
          | _ => exact type_ne_fuel h

/-- **C10 (termination)**: the model of `refactor_reference` never runs out of the fuel it gives itself -/
theorem refactorExpr_fuel_ok (e : Expr) (alias : String) : refactorExpr e alias ≠ .error fuelErr :=
  (refactor_fuel alias _).1 e (Nat.le_refl _)

end Hpl
