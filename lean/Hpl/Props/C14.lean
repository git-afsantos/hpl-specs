import Hpl.Model.Rewrite.Simplify
import Hpl.Model.Rewrite.Refactor
import Hpl.Model.Canon
import Hpl.Props.C11
/-! # C14 — rewriting functions are total on valid inputs: the result-kind theorems. The totality theorems are in C14b–C14e (and C13d,
    C13f); for `simplify` totality is tied by correspondence. -/
namespace Hpl

/-- predicate in, predicate out: the vacuous predicates are fixed points -/
theorem simplifyPred_vacuous (p : Pred) (h : p = .vtrue ∨ p = .vfalse) : simplifyPred p = .ok p := by
  rcases h with rfl | rfl <;> rfl

/-- ... and a simplified condition becomes vacuous exactly when it is the literal True / False -/
theorem simplifyPred_kind (e : Expr) (q : Pred) (h : simplifyPred (.expr e) = .ok q) :
    ∃ e', simp (simpFuel e) e = .ok e' ∧
      ((isTrueLit e' = true ∧ q = .vtrue) ∨ (isTrueLit e' = false ∧ isFalseLit e' = true ∧ q = .vfalse) ∨
       (isTrueLit e' = false ∧ isFalseLit e' = false ∧ mkPred e' = .ok q)) := by
  simp only [simplifyPred] at h
  cases hs : simp (simpFuel e) e with
  | error x => rw [hs] at h; simp [bind, Except.bind] at h
  | ok e' =>
    rw [hs] at h
    simp only [bind, Except.bind] at h
    refine ⟨e', rfl, ?_⟩
    split at h
    · rename_i ht; cases h; left; exact ⟨ht, rfl⟩
    · rename_i ht
      split at h
      · rename_i hf; cases h; right; left; exact ⟨by simpa using ht, hf, rfl⟩
      · rename_i hf; right; right; exact ⟨by simpa using ht, by simpa using hf, h⟩

/-- `refactor_reference` on a vacuous predicate: the predicate itself paired with the vacuous truth -/
theorem refactorPred_vacuous (p : Pred) (a : String) (h : p = .vtrue ∨ p = .vfalse) : refactorPred p a = .ok (p, .vtrue) := by
  rcases h with rfl | rfl <;> rfl

theorem mapM_length {α β : Type} (f : α → M β) : ∀ (l : List α) (r : List β), l.mapM f = .ok r → r.length = l.length
  | [], r, h => by simp [List.mapM_nil, pure, Except.pure] at h; simp [h]
  | a :: l, r, h => by
      rw [List.mapM_cons] at h
      obtain ⟨b, _, h⟩ := bind_ok h
      obtain ⟨bs, hbs, h⟩ := bind_ok h
      cases h
      simp [mapM_length f l bs hbs]

theorem canonicalScopes_ne_nil (s : Scope) : canonicalScopes s ≠ [] := by
  obtain ⟨k, a, t⟩ := s
  cases k <;> cases a <;> simp [canonicalScopes, simpleEvents_ne_nil]

theorem canonicalPatterns_ne_nil (p : Pattern) : canonicalPatterns p ≠ [] := by
  obtain ⟨k, b, tg, mn, mx⟩ := p
  cases k <;> cases tg <;> simp [canonicalPatterns, PatternKind.isSafety, simpleEvents_ne_nil]

/-- property in, non-empty list out -/
theorem canonical_nonempty (p : Property) (qs : List Property) (h : canonical p = .ok qs) : qs ≠ [] := by
  unfold canonical at h
  simp only at h
  split at h
  · cases h; simp
  · have hl := mapM_length _ _ _ h
    intro hq; subst hq
    simp only [List.length_nil] at hl
    have := List.length_eq_zero_iff.1 hl.symm
    rw [List.flatMap_eq_nil_iff] at this
    obtain ⟨s, hs⟩ := List.exists_mem_of_ne_nil _ (canonicalScopes_ne_nil p.scope)
    have h2 := this s hs
    rw [List.map_eq_nil_iff] at h2
    exact canonicalPatterns_ne_nil p.pattern h2

end Hpl
