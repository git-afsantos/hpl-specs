import Hpl.Props.C09
import Hpl.Lemmas.Refs
/-!
# C13 — predicate combinators and reference substitutions are semantically exact

Model: `Pred.negate`, `Pred.join`, `substE` (`replace`/`reshape`), `replaceThisWithVar*`, `replaceVarWithThis*`,
`mkSimpleEvent` (`Hpl/Model/Build.lean`, `Hpl/Model/Rewrite/Refactor.lean`). Spec: `eval` / `truth`.
-/
namespace Hpl
section
variable (opq : Opaque)

/-- truth value of a predicate (errors collapsed) -/
def predTruth (ρ : Env) : Pred → Option Bool
  | .expr e => truth opq ρ e
  | .vtrue => some true
  | .vfalse => some false

theorem predTruth_eq (ρ : Env) (p : Pred) : predTruth opq ρ p = (evalPred opq ρ p).toOption := by
  cases p <;> rfl

theorem mkPred_truth {e : Expr} {p : Pred} (h : mkPred e = .ok p) (ρ : Env) : predTruth opq ρ p = truth opq ρ e := by
  obtain ⟨e', he', _, rfl⟩ := mkPred_ok h
  simp only [predTruth, truth, castE_eval opq he']

/-- **C13**: `negate()` denotes logical negation -/
theorem negate_sem (p q : Pred) (h : p.negate = .ok q) (ρ : Env) :
    predTruth opq ρ q = (predTruth opq ρ p).map (!·) := by
  cases p with
  | vtrue => cases h; rfl
  | vfalse => cases h; rfl
  | expr e =>
    have general : (mkNot e >>= mkPred) = .ok q → predTruth opq ρ q = (predTruth opq ρ (.expr e)).map (!·) := by
      intro h
      obtain ⟨n, hn, hq⟩ := bind_ok h
      rw [mkPred_truth opq hq, truth_of_like opq (mkNot_like opq hn), truth_not]
      rfl
    cases e with
    | un t op a =>
      rcases ite_eq h with ⟨hop, h⟩ | ⟨-, h⟩
      · cases eq_of_beq hop
        rw [mkPred_truth opq h]
        simp only [predTruth, truth_not]
        cases truth opq ρ a <;> simp
      · exact general h
    | _ => exact general h

/-- **C13**: `join()` denotes conjunction wherever both operands are defined; the vacuous truth is its identity and the
    contradiction its annihilator -/
theorem join_sem (p q r : Pred) (h : p.join q = .ok r) (ρ : Env) (a b : Bool)
    (ha : predTruth opq ρ p = some a) (hb : predTruth opq ρ q = some b) : predTruth opq ρ r = some (a && b) := by
  cases p with
  | vtrue => cases h; cases ha; simpa using hb
  | vfalse => cases h; cases ha; rfl
  | expr e =>
    cases q with
    | vtrue => cases h; cases hb; simpa using ha
    | vfalse => cases h; cases hb; simp [predTruth]
    | expr e' =>
      obtain ⟨c, hc, h⟩ := bind_ok h
      rw [mkPred_truth opq h, truth_of_like opq (mkAnd_like opq hc), truth_and]
      simp only [predTruth] at ha hb
      rw [ha, hb]; rfl

theorem join_identity_annihilator (p : Pred) :
    Pred.join .vtrue p = .ok p ∧ Pred.join .vfalse p = .ok .vfalse ∧
    (∀ e, p = .expr e → Pred.join p .vtrue = .ok p ∧ Pred.join p .vfalse = .ok .vfalse) := by
  refine ⟨rfl, rfl, ?_⟩
  rintro e rfl; exact ⟨rfl, rfl⟩

theorem negate_vacuous : Pred.negate .vtrue = .ok .vfalse ∧ Pred.negate .vfalse = .ok .vtrue := ⟨rfl, rfl⟩


/-! ## substitutions -/
/-- no quantifier of the tree binds `x` (the alias is "not captured by a quantifier") -/
def NoBind (x : String) (e : Expr) : Prop := ∀ v ∈ e.preorder, bindsName x v = false
def NoBindL (x : String) (es : ExprList) : Prop := ∀ v ∈ es.preorder, bindsName x v = false

theorem noBind_iff (x : String) (e : Expr) : NoBind x e ↔ match e with
    | .lit .. | .this _ | .var .. => True
    | .set _ vs | .call _ _ vs => NoBindL x vs
    | .un _ _ a | .field _ a _ => NoBind x a
    | .range _ a b _ _ | .bin _ _ a b | .index _ a b => NoBind x a ∧ NoBind x b
    | .quant _ _ y d b => y ≠ x ∧ NoBind x d ∧ NoBind x b := by
  cases e with
  | lit | this | var => exact ⟨fun _ => trivial, fun _ v hv => by rw [List.mem_singleton.1 hv]; rfl⟩
  | set | call | un | field => exact List.forall_mem_cons.trans (and_iff_right rfl)
  | range | bin | index => exact List.forall_mem_cons.trans ((and_iff_right rfl).trans List.forall_mem_append)
  | quant => exact List.forall_mem_cons.trans (and_congr (beq_eq_false_iff_ne.trans ne_comm) List.forall_mem_append)

theorem noBindL_cons (x : String) (e : Expr) (es : ExprList) : NoBindL x (.cons e es) ↔ NoBind x e ∧ NoBindL x es :=
  List.forall_mem_append

mutual
/-- where no quantifier binds the name, the capture-avoiding replacement of `@x` is the plain `replace` -/
theorem substV_eq_substE (x : String) (other : Expr) : ∀ (e : Expr), NoBind x e → substV x other e = substE (isVarNamed x) other e
  | .lit .., _ => rfl
  | .this .., _ => rfl
  | .var .., _ => rfl
  | .set t vs, hn => by
      -- both sides unfold by definition; `simp only [substV, substE]` is far slower to check
      change (substVL x other vs >>= _) = (substL (isVarNamed x) other vs >>= _)
      rw [substVL_eq_substL x other vs ((noBind_iff x _).1 hn)]
  | .range t lo hi a b, hn => by
      change (substV x other lo >>= _) = (substE (isVarNamed x) other lo >>= _)
      rw [substV_eq_substE x other lo ((noBind_iff x _).1 hn).1,
          substV_eq_substE x other hi ((noBind_iff x _).1 hn).2]
  | .quant t q y d b, hn => by
      change (if (y == x) = true then _ else substV x other d >>= _) = (substE (isVarNamed x) other d >>= _)
      rw [if_neg (by simpa using ((noBind_iff x _).1 hn).1), substV_eq_substE x other d ((noBind_iff x _).1 hn).2.1,
          substV_eq_substE x other b ((noBind_iff x _).1 hn).2.2]
  | .un t op a, hn => by
      change (substV x other a >>= _) = (substE (isVarNamed x) other a >>= _)
      rw [substV_eq_substE x other a ((noBind_iff x _).1 hn)]
  | .bin t op a b, hn => by
      change (substV x other a >>= _) = (substE (isVarNamed x) other a >>= _)
      rw [substV_eq_substE x other a ((noBind_iff x _).1 hn).1,
          substV_eq_substE x other b ((noBind_iff x _).1 hn).2]
  | .call t f as, hn => by
      change (substVL x other as >>= _) = (substL (isVarNamed x) other as >>= _)
      rw [substVL_eq_substL x other as ((noBind_iff x _).1 hn)]
  | .field t m n, hn => by
      change (substV x other m >>= _) = (substE (isVarNamed x) other m >>= _)
      rw [substV_eq_substE x other m ((noBind_iff x _).1 hn)]
  | .index t a i, hn => by
      change (substV x other a >>= _) = (substE (isVarNamed x) other a >>= _)
      rw [substV_eq_substE x other a ((noBind_iff x _).1 hn).1,
          substV_eq_substE x other i ((noBind_iff x _).1 hn).2]
theorem substVL_eq_substL (x : String) (other : Expr) : ∀ (es : ExprList), NoBindL x es → substVL x other es = substL (isVarNamed x) other es
  | .nil, _ => rfl
  | .cons e es, hn => by
      change (substV x other e >>= _) = (substE (isVarNamed x) other e >>= _)
      rw [substV_eq_substE x other e ((noBindL_cons x _ _).1 hn).1,
          substVL_eq_substL x other es ((noBindL_cons x _ _).1 hn).2]
end

theorem mkFieldT_eval {t : DataType} {m e : Expr} {n : String} (h : mkFieldT t m n = .ok e) (ρ : Env) :
    eval opq ρ e = eval opq ρ (.field t m n) := by
  obtain ⟨m', hm', rfl⟩ := mkFieldT_ok h
  simp only [eval, castE_eval opq hm']
theorem mkIndexT_eval {t : DataType} {a i e : Expr} (h : mkIndexT t a i = .ok e) (ρ : Env) :
    eval opq ρ e = eval opq ρ (.index t a i) := by
  obtain ⟨a', i', ha', hi', rfl⟩ := mkIndexT_ok h
  simp only [eval, castE_eval opq ha', castE_eval opq hi']

theorem replace_node {α : Type} [DecidableEq α] {c : Prop} [Decidable c] {other e e' : Expr} {a : α} {X : M α} {mk : α → M Expr}
    (h : (if c then (.ok other : M Expr) else X >>= fun a' => if a' = a then pure e else mk a') = .ok e') :
    c ∧ e' = other ∨ ¬c ∧ ∃ a', X = .ok a' ∧ (a' = a ∧ e' = e ∨ mk a' = .ok e') := by
  rcases ite_eq h with ⟨hc, h⟩ | ⟨hc, h⟩
  · exact Or.inl ⟨hc, (Except.ok.inj h).symm⟩
  · obtain ⟨a', ha', h⟩ := bind_ok h
    refine Or.inr ⟨hc, a', ha', ?_⟩
    rcases ite_eq h with ⟨heq, h⟩ | ⟨_, h⟩
    · exact Or.inl ⟨heq, (Except.ok.inj h).symm⟩
    · exact Or.inr h

theorem replace_node₂ {c : Prop} [Decidable c] {other e e' a b : Expr} {X Y : M Expr} {mk : Expr → Expr → M Expr}
    (h : (if c then (.ok other : M Expr) else X >>= fun a' => Y >>= fun b' => if a' = a ∧ b' = b then pure e else mk a' b') = .ok e') :
    c ∧ e' = other ∨ ¬c ∧ ∃ a' b', X = .ok a' ∧ Y = .ok b' ∧ ((a' = a ∧ b' = b) ∧ e' = e ∨ mk a' b' = .ok e') := by
  rcases ite_eq h with ⟨hc, h⟩ | ⟨hc, h⟩
  · exact Or.inl ⟨hc, (Except.ok.inj h).symm⟩
  · obtain ⟨a', ha', h⟩ := bind_ok h
    obtain ⟨b', hb', h⟩ := bind_ok h
    refine Or.inr ⟨hc, a', b', ha', hb', ?_⟩
    rcases ite_eq h with ⟨heq, h⟩ | ⟨_, h⟩
    · exact Or.inl ⟨heq, (Except.ok.inj h).symm⟩
    · exact Or.inr h

section
variable (test : Expr → Bool) (other : Expr) (x : String) (Inv : Env → Prop)
  (hbind : ∀ ρ y v, Inv ρ → y ≠ x → Inv (ρ.bind y v))
  (hrep : ∀ ρ n, Inv ρ → test n = true → eval opq ρ other = eval opq ρ n)
include hbind hrep

mutual
/-- replacing every node satisfying `test` by `other` preserves the value under every valuation satisfying the invariant
    that makes `other` evaluate like the replaced nodes -/
theorem substE_sem : ∀ (e e' : Expr), substE test other e = .ok e' → NoBind x e → ∀ ρ, Inv ρ → eval opq ρ e' = eval opq ρ e
  | .lit .., e', h, _, ρ, hi | .this .., e', h, _, ρ, hi | .var .., e', h, _, ρ, hi => by
      cases h
      split
      · rename_i ht; exact hrep ρ _ hi ht
      · rfl
  | .set t vs, e', h, hn, ρ, hi => by
      rcases replace_node h with ⟨ht, rfl⟩ | ⟨_, vs', hvs', ⟨_, rfl⟩ | h⟩
      · exact hrep ρ _ hi ht
      · rfl
      · obtain ⟨vs'', hvs'', h⟩ := bind_ok h
        cases h
        simp only [eval, castList_evalList opq hvs'', substL_sem vs vs' hvs' ((noBind_iff x _).1 hn) ρ hi]
  | .range t lo hi a b, e', h, hn, ρ, hinv => by
      rcases replace_node₂ h with ⟨ht, rfl⟩ | ⟨_, lo', hi', hlo', hhi', ⟨_, rfl⟩ | h⟩
      · exact hrep ρ _ hinv ht
      · rfl
      · obtain ⟨lo'', hlo'', h⟩ := bind_ok h
        obtain ⟨hi'', hhi'', h⟩ := bind_ok h
        cases h
        simp only [eval, castE_eval opq hlo'', castE_eval opq hhi'', substE_sem lo lo' hlo' ((noBind_iff x _).1 hn).1 ρ hinv,
          substE_sem hi hi' hhi' ((noBind_iff x _).1 hn).2 ρ hinv]
  | .quant t q y d b, e', h, hn, ρ, hinv => by
      rcases replace_node₂ h with ⟨ht, rfl⟩ | ⟨_, d', b', hd', hb', ⟨_, rfl⟩ | h⟩
      · exact hrep ρ _ hinv ht
      · rfl
      · have ih2 : ∀ w, eval opq (ρ.bind y w) b' = eval opq (ρ.bind y w) b := fun w =>
          substE_sem b b' hb' ((noBind_iff x _).1 hn).2.2 (ρ.bind y w) (hbind ρ y w hinv ((noBind_iff x _).1 hn).1)
        rw [mkQuant_eval opq h]
        simp only [eval, substE_sem d d' hd' ((noBind_iff x _).1 hn).2.1 ρ hinv, ih2]
  | .un t op a, e', h, hn, ρ, hinv => by
      rcases replace_node h with ⟨ht, rfl⟩ | ⟨_, a', ha', ⟨_, rfl⟩ | h⟩
      · exact hrep ρ _ hinv ht
      · rfl
      · rw [mkUn_eval opq h ρ, substE_sem a a' ha' ((noBind_iff x _).1 hn) ρ hinv]
        rfl
  | .bin t op a b, e', h, hn, ρ, hinv => by
      rcases replace_node₂ h with ⟨ht, rfl⟩ | ⟨_, a', b', ha', hb', ⟨_, rfl⟩ | h⟩
      · exact hrep ρ _ hinv ht
      · rfl
      · rw [mkBin_eval opq h ρ, substE_sem a a' ha' ((noBind_iff x _).1 hn).1 ρ hinv, substE_sem b b' hb' ((noBind_iff x _).1 hn).2 ρ hinv]
        rfl
  | .call t f as, e', h, hn, ρ, hinv => by
      rcases replace_node h with ⟨ht, rfl⟩ | ⟨_, as', has', ⟨_, rfl⟩ | h⟩
      · exact hrep ρ _ hinv ht
      · rfl
      · rw [mkCall_eval opq h ρ, substL_sem as as' has' ((noBind_iff x _).1 hn) ρ hinv]
        rfl
  | .field t m n, e', h, hn, ρ, hinv => by
      rcases replace_node h with ⟨ht, rfl⟩ | ⟨_, m', hm', ⟨_, rfl⟩ | h⟩
      · exact hrep ρ _ hinv ht
      · rfl
      · rw [mkFieldT_eval opq h ρ]
        simp only [eval, substE_sem m m' hm' ((noBind_iff x _).1 hn) ρ hinv]
  | .index t a i, e', h, hn, ρ, hinv => by
      rcases replace_node₂ h with ⟨ht, rfl⟩ | ⟨_, a', i', ha', hi', ⟨_, rfl⟩ | h⟩
      · exact hrep ρ _ hinv ht
      · rfl
      · rw [mkIndexT_eval opq h ρ]
        simp only [eval, substE_sem a a' ha' ((noBind_iff x _).1 hn).1 ρ hinv, substE_sem i i' hi' ((noBind_iff x _).1 hn).2 ρ hinv]
theorem substL_sem : ∀ (es es' : ExprList), substL test other es = .ok es' → NoBindL x es → ∀ ρ, Inv ρ →
    evalList opq ρ es' = evalList opq ρ es
  | .nil, es', h, _, ρ, _ => by cases h; rfl
  | .cons e es, es', h, hn, ρ, hinv => by
      obtain ⟨e', he', h⟩ := bind_ok h
      obtain ⟨es'', hes', h⟩ := bind_ok h
      cases h
      simp only [evalList, substE_sem e e' he' ((noBindL_cons x _ _).1 hn).1 ρ hinv,
        substL_sem es es'' hes' ((noBindL_cons x _ _).1 hn).2 ρ hinv]
end
end

/-- the valuations in which the variable `x` is bound to the current message (said through `eval`, as `substE_sem` asks it of the
    replaced node; the type set of a variable node plays no part in its value, hence the `0`) -/
def BoundToThis (x : String) (ρ : Env) : Prop := ∃ v, ρ.vars.lookup x = some v ∧ eval opq ρ (.var 0 x) = .ok ρ.this

theorem boundToThis_bind (x : String) (ρ : Env) (y : String) (v : Value) (h : BoundToThis opq x ρ) (hy : y ≠ x) :
    BoundToThis opq x (ρ.bind y v) := by
  obtain ⟨w, hw, he⟩ := h
  simp only [eval, lookupVar] at he
  rw [hw] at he
  refine ⟨w, ?_, ?_⟩
  · rw [lookup_bind]; simp [Ne.symm hy, hw]
  · simp only [eval, lookupVar]; rw [lookup_bind]; simp only [beq_iff_eq, Ne.symm hy, ↓reduceIte, hw]
    simpa [Env.bind] using he

/-- **C13**: replacing the current-message reference by a variable and evaluating with that variable bound to the message
    gives the original value (for a variable not captured by a quantifier) -/
theorem replaceThisWithVar_sem (e e' : Expr) (x : String) (h : replaceThisWithVarE e x = .ok e') (hn : NoBind x e)
    (ρ : Env) (hρ : BoundToThis opq x ρ) : eval opq ρ e' = eval opq ρ e := by
  unfold replaceThisWithVarE Expr.replaceSelf at h
  refine substE_sem opq isThis _ x (BoundToThis opq x) (fun ρ y v hi hy => boundToThis_bind opq x ρ y v hi hy) ?_ e e' h hn ρ hρ
  intro ρ' n hi ht
  cases n with
  | this t =>
    obtain ⟨w, hw, he⟩ := hi
    simp only [eval] at he ⊢
    exact he
  | _ => simp [isThis] at ht

/-- **C13**: symmetrically, replacing a variable by the current message -/
theorem replaceVarWithThis_sem (e e' : Expr) (x : String) (h : replaceVarWithThisE e x = .ok e') (hn : NoBind x e)
    (ρ : Env) (hρ : BoundToThis opq x ρ) : eval opq ρ e' = eval opq ρ e := by
  unfold replaceVarWithThisE Expr.replaceVar at h
  rw [substV_eq_substE x _ e hn] at h
  refine substE_sem opq (isVarNamed x) _ x (BoundToThis opq x) (fun ρ y v hi hy => boundToThis_bind opq x ρ y v hi hy) ?_ e e' h hn ρ hρ
  intro ρ' n hi ht
  cases n with
  | var t y =>
    have : x = y := by simpa [isVarNamed] using ht
    subst this
    obtain ⟨w, hw, he⟩ := hi
    simp only [eval] at he ⊢
    exact he.symm
  | _ => simp [isVarNamed] at ht


end

/-! ## occurrences of a reference in what the constructors return -/
theorem castList_containsRef : ∀ {t : DataType} {vs vs' : ExprList}, castList t vs = .ok vs' → ∀ a, vs'.containsRef a = vs.containsRef a
  | _, .nil, vs', h, a => by cases h; rfl
  | t, .cons e es, vs', h, a => by
      obtain ⟨e', he', h⟩ := bind_ok h
      obtain ⟨es', hes', h⟩ := bind_ok h
      cases h
      simp only [ExprList.containsRef, castE_containsRef he', castList_containsRef hes']

theorem mkFieldT_containsRef {t : DataType} {m e : Expr} {n : String} (h : mkFieldT t m n = .ok e) (a : String) :
    e.containsRef a = m.containsRef a := by
  obtain ⟨m', hm', rfl⟩ := mkFieldT_ok h
  simp only [Expr.containsRef, castE_containsRef hm']

theorem mkIndexT_containsRef {t : DataType} {x i e : Expr} (h : mkIndexT t x i = .ok e) (a : String) :
    e.containsRef a = (x.containsRef a || i.containsRef a) := by
  obtain ⟨x', i', hx', hi', rfl⟩ := mkIndexT_ok h
  simp only [Expr.containsRef, castE_containsRef hx', castE_containsRef hi']

/-! ## the own alias of an event is rewritten away -/
mutual
/-- after replacing every `@a` by something that does not mention `a`, `a` no longer occurs -/
theorem substE_removes (a : String) (other : Expr) (ho : other.containsRef a = false) :
    ∀ (e e' : Expr), substE (isVarNamed a) other e = .ok e' → e'.containsRef a = false
  | .lit .., e', h => by cases h; rfl
  | .this .., e', h => by cases h; rfl
  | .var t y, e', h => by
      cases h
      split
      · exact ho
      · rename_i hne; simpa [Expr.containsRef, isVarNamed] using hne
  | .set t vs, e', h => by
      rcases replace_node h with ⟨_, rfl⟩ | ⟨_, vs', hvs', h⟩
      · exact ho
      · have ih := substL_removes a other ho vs vs' hvs'
        rcases h with ⟨rfl, rfl⟩ | h
        · exact ih
        · obtain ⟨vs'', hvs'', h⟩ := bind_ok h
          cases h
          simp only [Expr.containsRef, castList_containsRef hvs'', ih]
  | .range t lo hi x y, e', h => by
      rcases replace_node₂ h with ⟨_, rfl⟩ | ⟨_, lo', hi', hlo', hhi', h⟩
      · exact ho
      · have ih1 := substE_removes a other ho lo lo' hlo'
        have ih2 := substE_removes a other ho hi hi' hhi'
        rcases h with ⟨⟨rfl, rfl⟩, rfl⟩ | h
        · simp only [Expr.containsRef, ih1, ih2]; rfl
        · obtain ⟨lo'', hlo'', h⟩ := bind_ok h
          obtain ⟨hi'', hhi'', h⟩ := bind_ok h
          cases h
          simp only [Expr.containsRef, castE_containsRef hlo'', castE_containsRef hhi'', ih1, ih2]; rfl
  | .quant t q y d b, e', h => by
      rcases replace_node₂ h with ⟨_, rfl⟩ | ⟨_, d', b', hd', hb', h⟩
      · exact ho
      · have ih1 := substE_removes a other ho d d' hd'
        have ih2 := substE_removes a other ho b b' hb'
        rcases h with ⟨⟨rfl, rfl⟩, rfl⟩ | h
        · simp only [Expr.containsRef, ih1, ih2]; rfl
        · rw [mkQuant_containsRef h, ih1, ih2]; rfl
  | .un t op x, e', h => by
      rcases replace_node h with ⟨_, rfl⟩ | ⟨_, x', hx', h⟩
      · exact ho
      · have ih := substE_removes a other ho x x' hx'
        rcases h with ⟨rfl, rfl⟩ | h
        · exact ih
        · rw [mkUn_containsRef h, ih]
  | .bin t op x y, e', h => by
      rcases replace_node₂ h with ⟨_, rfl⟩ | ⟨_, x', y', hx', hy', h⟩
      · exact ho
      · have ih1 := substE_removes a other ho x x' hx'
        have ih2 := substE_removes a other ho y y' hy'
        rcases h with ⟨⟨rfl, rfl⟩, rfl⟩ | h
        · simp only [Expr.containsRef, ih1, ih2]; rfl
        · rw [mkBin_containsRef h, ih1, ih2]; rfl
  | .call t f as, e', h => by
      rcases replace_node h with ⟨_, rfl⟩ | ⟨_, as', has', h⟩
      · exact ho
      · have ih := substL_removes a other ho as as' has'
        rcases h with ⟨rfl, rfl⟩ | h
        · exact ih
        · rw [mkCall_containsRef h, ih]
  | .field t m n, e', h => by
      rcases replace_node h with ⟨_, rfl⟩ | ⟨_, m', hm', h⟩
      · exact ho
      · have ih := substE_removes a other ho m m' hm'
        rcases h with ⟨rfl, rfl⟩ | h
        · exact ih
        · rw [mkFieldT_containsRef h, ih]
  | .index t x i, e', h => by
      rcases replace_node₂ h with ⟨_, rfl⟩ | ⟨_, x', i', hx', hi', h⟩
      · exact ho
      · have ih1 := substE_removes a other ho x x' hx'
        have ih2 := substE_removes a other ho i i' hi'
        rcases h with ⟨⟨rfl, rfl⟩, rfl⟩ | h
        · simp only [Expr.containsRef, ih1, ih2]; rfl
        · rw [mkIndexT_containsRef h, ih1, ih2]; rfl
theorem substL_removes (a : String) (other : Expr) (ho : other.containsRef a = false) :
    ∀ (es es' : ExprList), substL (isVarNamed a) other es = .ok es' → es'.containsRef a = false
  | .nil, es', h => by cases h; rfl
  | .cons e es, es', h => by
      obtain ⟨e', he', h⟩ := bind_ok h
      obtain ⟨es'', hes', h⟩ := bind_ok h
      cases h
      simp only [ExprList.containsRef, substE_removes a other ho e e' he', substL_removes a other ho es es'' hes']; rfl
end

theorem mkPred_containsRef {e : Expr} {p : Pred} (h : mkPred e = .ok p) (a : String) : p.containsRef a = e.containsRef a := by
  obtain ⟨e', he', _, rfl⟩ := mkPred_ok h
  simp only [Pred.containsRef, castE_containsRef he']

/-- **C13**: an event `t as A {f}` stores `f` with `@A` rewritten to the message itself: the stored predicate never
    mentions `A` (where no quantifier of `f` binds the name `A`: such occurrences are bound variables and stay), and `A` is not among
    the event's external references -/
theorem event_alias_normalised (n a : String) (p : Pred) (ev : Event) (ha : a ≠ "")
    (hn : ∀ e, p = .expr e → NoBind a e) (h : mkSimpleEvent n (some a) p = .ok ev) :
    ∃ p', ev = .simple n (some a) p' ∧ p'.containsRef a = false ∧ a ∉ ev.freeRefs := by
  unfold mkSimpleEvent at h
  simp only [ha, ne_eq, not_false_eq_true, ↓reduceIte] at h
  obtain ⟨p', hp', h⟩ := bind_ok h
  cases h
  refine ⟨p', rfl, ?_, by simp [Event.freeRefs]⟩
  cases p with
  | vtrue => cases hp'; rfl
  | vfalse => cases hp'; rfl
  | expr e =>
    simp only [Pred.replaceVar, Expr.replaceVar] at hp'
    obtain ⟨e', he', hp'⟩ := bind_ok hp'
    rw [substV_eq_substE a _ e (hn e rfl)] at he'
    have hrem := substE_removes a (.this T.MESSAGE) rfl e e' he'
    split at hp'
    · rename_i heq; cases hp'; simp only [Pred.containsRef]; rw [← heq]; exact hrem
    · rw [mkPred_containsRef hp']; exact hrem

section
variable (opq : Opaque)
/-- ... and it means the same as writing the fields directly: under every valuation binding `A` to the current message the
    stored predicate has the truth value of the written one -/
theorem event_alias_sem (n a : String) (e : Expr) (ev : Event) (ha : a ≠ "") (hn : NoBind a e)
    (h : mkSimpleEvent n (some a) (.expr e) = .ok ev) (ρ : Env) (hρ : BoundToThis opq a ρ) :
    ∃ p', ev = .simple n (some a) p' ∧ predTruth opq ρ p' = truth opq ρ e := by
  unfold mkSimpleEvent at h
  simp only [ha, ne_eq, not_false_eq_true, ↓reduceIte] at h
  obtain ⟨p', hp', h⟩ := bind_ok h
  cases h
  refine ⟨p', rfl, ?_⟩
  simp only [Pred.replaceVar] at hp'
  obtain ⟨e', he', hp'⟩ := bind_ok hp'
  have hs := replaceVarWithThis_sem opq e e' a he' hn ρ hρ
  split at hp'
  · cases hp'; rfl
  · rw [mkPred_truth opq hp']; unfold truth; rw [hs]
end

-- non-vacuity: `t as A {@A.x > x}` is stored as `{x > x}`
example : mkSimpleEvent "t" (some "A") (.expr (.bin T.BOOL ">" (.field T.NUMBER (.var T.MESSAGE "A") "x") (.field T.NUMBER (.this T.MESSAGE) "x"))) =
    .ok (.simple "t" (some "A") (.expr (.bin T.BOOL ">" (.field T.NUMBER (.this T.MESSAGE) "x") (.field T.NUMBER (.this T.MESSAGE) "x")))) := by rfl

end Hpl
