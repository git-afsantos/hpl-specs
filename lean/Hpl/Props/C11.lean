import Hpl.Model.Canon
import Hpl.Spec.Canonical
import Hpl.Lemmas.Except
/-!
# C11 — `canonical_form` is an exact, order-stable decomposition

Model: `Hpl/Model/Canon.lean`. Spec: `canonicalSpec` (the product of the activator's alternatives with the split event's
alternatives, activator-major, source order, every other field copied).

Known finding (see known_findings.json, C11-split-unbinds-alias): `property.but(...)` re-runs the sanity check on every
copy, so `canonical_form` *raises* when a later event references an alias that only one alternative of a split
disjunction binds. The theorems therefore speak about the successful case (`canonical p = .ok qs`) and characterise the
failing case (`canonical_error_is_sanity_of_copy`).
-/
namespace Hpl

/-! ## generated-table obligations (G5) -/
/-- the model's pattern predicates are the ones of `PatternType` (extracted from the code), member for member -/
theorem G5_pattern_table :
    (∀ r ∈ Gen.patternTypes, (r.name, r.isSafety, r.isLiveness, r.hasTrigger) ∈ PatternKind.all.map (fun k => (k.pyName, k.isSafety, k.isLiveness, k.hasTrigger))) ∧
    (∀ k ∈ PatternKind.all, k.pyName ∈ Gen.patternTypes.map (·.name)) ∧ (Gen.patternTypes.map (·.name)).Nodup := by decide

/-- every pattern type is exactly one of safety / liveness -/
theorem G5_safety_xor_liveness : ∀ r ∈ Gen.patternTypes, r.isSafety = !r.isLiveness := by decide

/-- the kind tests used by the split: safety = absence/requirement/prevention; response is the only split liveness pattern -/
theorem G5_kind_tests : ∀ r ∈ Gen.patternTypes,
    (r.isAbsence, r.isExistence, r.isRequirement, r.isResponse, r.isPrevention) =
    (r.name == "ABSENCE", r.name == "EXISTENCE", r.name == "REQUIREMENT", r.name == "RESPONSE", r.name == "PREVENTION") := by decide

theorem G5_scope_table :
    (∀ r ∈ Gen.scopeTypes, (r.name, r.isAfter, r.isUntil, r.hasActivator, r.hasTerminator) ∈
      ScopeKind.all.map (fun k => (k.pyName, k.hasActivator, k.hasTerminator, k.hasActivator, k.hasTerminator))) ∧
    (∀ k ∈ ScopeKind.all, k.pyName ∈ Gen.scopeTypes.map (·.name)) ∧ (Gen.scopeTypes.map (·.name)).Nodup := by decide

/-! ## facts about alternatives -/
theorem simpleEvents_simple : ∀ (e a : Event), a ∈ e.simpleEvents → a.isDisj = false
  | .simple .., a, h => by simp [Event.simpleEvents] at h; subst h; rfl
  | .disj x y, a, h => by
      simp [Event.simpleEvents] at h; rcases h with h | h
      · exact simpleEvents_simple x a h
      · exact simpleEvents_simple y a h

theorem simpleEvents_of_simple (e : Event) (h : e.isDisj = false) : e.simpleEvents = [e] := by
  cases e <;> simp_all [Event.simpleEvents, Event.isDisj]

theorem simpleEvents_ne_nil : ∀ e : Event, e.simpleEvents ≠ []
  | .simple .. => by simp [Event.simpleEvents]
  | .disj a b => by simp [Event.simpleEvents, simpleEvents_ne_nil a]

theorem simpleEvents_disj_length (a b : Event) : 2 ≤ (Event.disj a b).simpleEvents.length := by
  have ha := List.length_pos_iff.2 (simpleEvents_ne_nil a)
  have hb := List.length_pos_iff.2 (simpleEvents_ne_nil b)
  simp [Event.simpleEvents]; omega

theorem simpleEvents_of_length_one {e : Event} (h : e.simpleEvents.length = 1) : e.simpleEvents = [e] := by
  cases e with
  | simple n al pr => rfl
  | disj x y =>
    have := simpleEvents_disj_length x y
    omega

theorem canonicalScopes_eq_spec (s : Scope) : canonicalScopes s = scopeAlts s := rfl

theorem canonicalPatterns_eq_spec (p : Pattern) (htrig : p.kind.hasTrigger = p.trigger.isSome) :
    canonicalPatterns p = patternAlts p := by
  obtain ⟨k, b, tg, mn, mx⟩ := p
  -- both sides unfold by definition; `htrig` excludes a trigger kind without trigger and a trigger on the other kinds
  cases tg with
  | none =>
    cases k with
    | absence | existence => rfl
    | requirement | response | prevention => cases htrig
  | some t =>
    cases k with
    | absence | existence => cases htrig
    | requirement | response | prevention => rfl

theorem canonicalScopes_simple (s : Scope) (h : ∀ a, s.activator = some a → a.isDisj = false) :
    canonicalScopes s = [s] := by
  obtain ⟨k, a, t⟩ := s
  cases a with
  | none => cases k <;> rfl
  | some a =>
    cases k with
    | global | until_ => rfl
    | after | afterUntil => exact congrArg (List.map _) (simpleEvents_of_simple a (h a rfl))

theorem canonicalPatterns_simple (p : Pattern) (h : ∀ e, splitEvent p = some e → e.isDisj = false) :
    canonicalPatterns p = [p] := by
  obtain ⟨k, b, tg, mn, mx⟩ := p
  cases k with
  | absence | requirement | prevention => exact congrArg (List.map _) (simpleEvents_of_simple b (h b rfl))
  | existence => rfl
  | response =>
    cases tg with
    | none => rfl
    | some t => exact congrArg (List.map _) (simpleEvents_of_simple t (h t rfl))

/-- **C11**: nothing to split ⇒ the property itself -/
theorem canonical_self (p : Property)
    (ha : ∀ a, p.scope.activator = some a → a.isDisj = false)
    (hs : ∀ e, splitEvent p.pattern = some e → e.isDisj = false) : canonical p = .ok [p] := by
  simp [canonical, canonicalScopes_simple p.scope ha, canonicalPatterns_simple p.pattern hs]

theorem mapM_ok_map {α β : Type} (f : α → M β) (g : α → β) :
    ∀ (l : List α) (r : List β), l.mapM f = .ok r → (∀ a ∈ l, ∀ b, f a = .ok b → b = g a) → r = l.map g
  | [], r, h, _ => by simp [List.mapM_nil, pure, Except.pure] at h; simp [h]
  | a :: l, r, h, hg => by
      rw [List.mapM_cons] at h
      obtain ⟨b, hfa, h⟩ := bind_ok h
      obtain ⟨bs, hl, h⟩ := bind_ok h
      cases h
      rw [List.map_cons, ← hg a List.mem_cons_self b hfa,
        ← mapM_ok_map f g l bs hl fun x hx => hg x (List.mem_cons_of_mem _ hx)]

theorem butProp_ok {p : Property} {s : Scope} {q : Pattern} {r : Property} (h : butProp p s q = .ok r) :
    r = { p with scope := s, pattern := q } ∧ sanityCheck s q = .ok () := by
  unfold butProp at h
  obtain ⟨u, hu, h⟩ := bind_ok h
  cases h; cases u; exact ⟨rfl, hu⟩

/-- **C11**: a successful `canonical_form` returns exactly the product (activator-major, source order), every copy
    differing from the input only in the two split positions — scope kind, terminator, pattern kind, the other event,
    time bounds and metadata are the input's -/
theorem canonical_eq_spec (p : Property) (qs : List Property) (htrig : p.pattern.kind.hasTrigger = p.pattern.trigger.isSome)
    (h : canonical p = .ok qs) : qs = canonicalSpec p := by
  rcases ite_eq h with ⟨⟨h1, h2⟩, h⟩ | ⟨-, h⟩
  · cases h
    -- both lists are singletons, and the singleton alternatives are the input's own fields
    unfold canonicalSpec
    rw [← canonicalScopes_eq_spec, ← canonicalPatterns_eq_spec _ htrig]
    have hs : canonicalScopes p.scope = [p.scope] := by
      obtain ⟨⟨k, a, t⟩, pat, md⟩ := p
      cases a with
      | none => cases k <;> rfl
      | some a =>
        cases k with
        | global | until_ => rfl
        | after | afterUntil =>
          exact congrArg (List.map _) (simpleEvents_of_length_one ((List.length_map _).symm.trans h1))
    have hp : canonicalPatterns p.pattern = [p.pattern] := by
      obtain ⟨sc, ⟨k, b, tg, mn, mx⟩, md⟩ := p
      cases k with
      | absence | requirement | prevention =>
        exact congrArg (List.map _) (simpleEvents_of_length_one ((List.length_map _).symm.trans h2))
      | existence => rfl
      | response =>
        cases tg with
        | none => rfl
        | some t => exact congrArg (List.map _) (simpleEvents_of_length_one ((List.length_map _).symm.trans h2))
    rw [hs, hp]; simp
  · have := mapM_ok_map (fun (sq : Scope × Pattern) => butProp p sq.1 sq.2)
      (fun (sq : Scope × Pattern) => ({ p with scope := sq.1, pattern := sq.2 } : Property)) _ qs h
      (by intro sq _ b hb; exact (butProp_ok hb).1)
    rw [this, canonicalSpec, ← canonicalScopes_eq_spec, ← canonicalPatterns_eq_spec _ htrig]
    simp [List.map_flatMap, List.map_map, Function.comp_def]

theorem mem_scopeAlts {s s' : Scope} (h : s' ∈ scopeAlts s) :
    (s' = s ∧ (s.kind.hasActivator = false ∨ s.activator = none)) ∨
      ∃ a e, s.activator = some a ∧ e ∈ a.simpleEvents ∧ s' = { s with activator := some e } := by
  obtain ⟨k, a, t⟩ := s
  cases a with
  | none => exact .inl ⟨by cases k <;> exact List.mem_singleton.1 h, .inr rfl⟩
  | some a =>
    cases k with
    | global | until_ => exact .inl ⟨List.mem_singleton.1 h, .inl rfl⟩
    | after | afterUntil =>
      obtain ⟨e, he, rfl⟩ := List.mem_map.1 h
      exact .inr ⟨a, e, rfl, he, rfl⟩

theorem mem_patternAlts {p q : Pattern} (h : q ∈ patternAlts p) :
    (q = p ∧ splitEvent p = none) ∨ ∃ e₀ e, splitEvent p = some e₀ ∧ e ∈ e₀.simpleEvents ∧ q = withSplit p e := by
  unfold patternAlts at h
  cases hs : splitEvent p with
  | none =>
    rw [hs] at h
    exact .inl ⟨List.mem_singleton.1 h, rfl⟩
  | some e₀ =>
    rw [hs] at h
    obtain ⟨e, he, rfl⟩ := List.mem_map.1 h
    exact .inr ⟨e₀, e, rfl, he, rfl⟩

theorem withSplit_spec (p : Pattern) (e : Event) :
    ((withSplit p e).kind = p.kind ∧ (withSplit p e).minTime = p.minTime ∧ (withSplit p e).maxTime = p.maxTime) ∧
    ((p.kind.isSafety = true → (withSplit p e).trigger = p.trigger) ∧
      (p.kind.isSafety = false → (withSplit p e).behaviour = p.behaviour) ∧ (p.kind = .existence → withSplit p e = p)) ∧
    ∀ e', splitEvent (withSplit p e) = some e' → splitEvent p ≠ none → e' = e := by
  obtain ⟨k, b, tg, mn, mx⟩ := p
  -- per kind everything is by definition; an impossible premise is an equation between distinct constructors
  cases k with
  | absence | requirement | prevention =>
    exact ⟨⟨rfl, rfl, rfl⟩, ⟨fun _ => rfl, nofun, nofun⟩, fun _ he _ => (Option.some.inj he).symm⟩
  | existence => exact ⟨⟨rfl, rfl, rfl⟩, ⟨fun _ => rfl, fun _ => rfl, fun _ => rfl⟩, fun _ _ hn => absurd rfl hn⟩
  | response => exact ⟨⟨rfl, rfl, rfl⟩, ⟨nofun, fun _ => rfl, nofun⟩, fun _ he _ => (Option.some.inj he).symm⟩

/-- every copy in the spec keeps scope kind, terminator, pattern kind, time bounds and metadata -/
theorem canonicalSpec_fields (p q : Property) (h : q ∈ canonicalSpec p) :
    q.scope.kind = p.scope.kind ∧ q.scope.terminator = p.scope.terminator ∧ q.pattern.kind = p.pattern.kind ∧
    q.pattern.minTime = p.pattern.minTime ∧ q.pattern.maxTime = p.pattern.maxTime ∧ q.metadata = p.metadata := by
  obtain ⟨s, hs, h⟩ := List.mem_flatMap.1 h
  obtain ⟨pt, hpt, rfl⟩ := List.mem_map.1 h
  have h1 : s.kind = p.scope.kind ∧ s.terminator = p.scope.terminator := by
    rcases mem_scopeAlts hs with ⟨rfl, -⟩ | ⟨a, e, -, -, rfl⟩ <;> exact ⟨rfl, rfl⟩
  have h2 : pt.kind = p.pattern.kind ∧ pt.minTime = p.pattern.minTime ∧ pt.maxTime = p.pattern.maxTime := by
    rcases mem_patternAlts hpt with ⟨rfl, -⟩ | ⟨e₀, e, -, -, rfl⟩
    · exact ⟨rfl, rfl, rfl⟩
    · exact (withSplit_spec _ e).1
  exact ⟨h1.1, h1.2, h2.1, h2.2.1, h2.2.2, rfl⟩

/-- **C11**: existence behaviours, response behaviours, requirement/prevention triggers are never split -/
theorem canonicalSpec_unsplit (p q : Property) (h : q ∈ canonicalSpec p) :
    (p.pattern.kind.isSafety = true → q.pattern.trigger = p.pattern.trigger) ∧
    (p.pattern.kind.isSafety = false → q.pattern.behaviour = p.pattern.behaviour) ∧
    (p.pattern.kind = .existence → q.pattern = p.pattern) := by
  obtain ⟨s, _, h⟩ := List.mem_flatMap.1 h
  obtain ⟨pt, hpt, rfl⟩ := List.mem_map.1 h
  rcases mem_patternAlts hpt with ⟨rfl, -⟩ | ⟨e₀, e, -, -, rfl⟩
  · exact ⟨fun _ => rfl, fun _ => rfl, fun _ => rfl⟩
  · exact (withSplit_spec _ e).2.1

/-- the split positions of every output are simple events -/
theorem canonicalSpec_simple (p q : Property) (hsc : p.scope.kind.hasActivator = p.scope.activator.isSome)
    (h : q ∈ canonicalSpec p) :
    (∀ a, q.scope.activator = some a → a.isDisj = false) ∧ (∀ e, splitEvent q.pattern = some e → e.isDisj = false) := by
  obtain ⟨s, hs, h⟩ := List.mem_flatMap.1 h
  obtain ⟨pt, hpt, rfl⟩ := List.mem_map.1 h
  constructor
  · intro a ha
    rcases mem_scopeAlts hs with ⟨rfl, hk | hn⟩ | ⟨a₀, e, -, he, rfl⟩
    · rw [hk, show p.scope.activator = some a from ha] at hsc
      cases hsc
    · rw [show p.scope.activator = some a from ha] at hn
      cases hn
    · cases ha
      exact simpleEvents_simple _ _ he
  · intro e he
    rcases mem_patternAlts hpt with ⟨rfl, hn⟩ | ⟨e₀, e', h₀, he', rfl⟩
    · rw [show splitEvent p.pattern = some e from he] at hn
      cases hn
    · cases (withSplit_spec _ e').2.2 e he (by rw [h₀]; exact nofun)
      exact simpleEvents_simple _ _ he'

/-- **C11**: applying `canonical_form` to any output returns just that output -/
theorem canonical_idempotent (p : Property) (qs : List Property)
    (hsc : p.scope.kind.hasActivator = p.scope.activator.isSome)
    (htrig : p.pattern.kind.hasTrigger = p.pattern.trigger.isSome)
    (h : canonical p = .ok qs) : ∀ q ∈ qs, canonical q = .ok [q] := by
  intro q hq
  rw [canonical_eq_spec p qs htrig h] at hq
  obtain ⟨h1, h2⟩ := canonicalSpec_simple p q hsc hq
  exact canonical_self q h1 h2

/-- the failing case: some copy of the product is rejected by the sanity check of `but()` -/
theorem canonical_error_is_sanity_of_copy (p : Property) (e : Err) (h : canonical p = .error e) :
    ∃ s ∈ canonicalScopes p.scope, ∃ q ∈ canonicalPatterns p.pattern, sanityCheck s q = .error e := by
  rcases ite_eq h with ⟨-, h⟩ | ⟨-, h⟩
  · cases h
  · have key : ∀ (l : List (Scope × Pattern)), l.mapM (fun sq => butProp p sq.1 sq.2) = .error e →
        ∃ sq ∈ l, sanityCheck sq.1 sq.2 = .error e := by
      intro l
      induction l with
      | nil => intro h; simp [List.mapM_nil, pure, Except.pure] at h
      | cons x xs ih =>
        intro h
        rw [List.mapM_cons] at h
        rcases bind_err h with h1 | ⟨b, hb, h⟩
        · unfold butProp at h1
          rcases bind_err h1 with h2 | ⟨_, _, h3⟩
          · exact ⟨x, List.mem_cons_self, h2⟩
          · cases h3
        · rcases bind_err h with h2 | ⟨_, _, h3⟩
          · obtain ⟨sq, hsq, hs⟩ := ih h2
            exact ⟨sq, List.mem_cons_of_mem _ hsq, hs⟩
          · cases h3
    obtain ⟨sq, hsq, hs⟩ := key _ h
    obtain ⟨s, hs1, hsq⟩ := List.mem_flatMap.1 hsq
    obtain ⟨q, hq1, rfl⟩ := List.mem_map.1 hsq
    exact ⟨s, hs1, q, hq1, hs⟩

/-! ## non-vacuity -/
def evS (n : String) : Event := .simple n none .vtrue
def exC11 : Property := ⟨⟨.after, some (.disj (evS "a") (evS "b")), none⟩, ⟨.absence, .disj (evS "c") (.disj (evS "d") (evS "e")), none, 0, some 2⟩, [("id", "p1")]⟩
example : (canonical exC11).toOption.map List.length = some 6 := by rfl
example : (canonical exC11).toOption = some (canonicalSpec exC11) := by rfl

end Hpl
