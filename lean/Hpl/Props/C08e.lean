import Hpl.Props.C08d
/-!
# C08 — discharging `AggFoldSound`: the folding of aggregates over literal collections preserves meaning

`len`, `sum`, `prod` over a set literal of literals (`eval_litSet`), a range literal with literal bounds (`eval_litRange`) and a string
literal.  The reference semantics gives a set literal a value only if its members are of one kind (`sameKinds`), so the
Python equality the simplifier de-duplicates with (`pyEq`) and the structural equality of the value domain agree on the members.
-/
namespace Hpl

/-- first-occurrence de-duplication with an accumulator, as the simplifier does it -/
def accum (seen : List Prim) (ps : List Prim) : List Prim :=
  ps.foldl (fun acc p => if acc.contains p then acc else acc ++ [p]) seen

theorem accum_eq : ∀ (ps seen : List Prim), accum seen ps = seen ++ dd (ps.filter (fun p => !seen.contains p))
  | [], seen => by simp [accum, dd]
  | p :: ps, seen => by
      unfold accum
      simp only [List.foldl_cons]
      by_cases hc : seen.contains p = true
      · simp only [hc, if_true]
        have := accum_eq ps seen
        unfold accum at this
        rw [this]
        have hm : p ∈ seen := List.contains_iff_mem.1 hc
        simp [List.filter_cons, hm]
      · have hc' : seen.contains p = false := by simpa using hc
        simp only [hc', Bool.false_eq_true, if_false]
        have := accum_eq ps (seen ++ [p])
        unfold accum at this
        rw [this]
        simp only [List.filter_cons, hc', Bool.not_false, if_true, dd, List.append_assoc, List.cons_append, List.nil_append]
        congr 2
        rw [filter_dd, List.filter_filter]
        congr 1
        apply List.filter_congr
        intro x _
        simp only [List.contains_append, List.contains_cons, List.contains_nil, Bool.or_false, Bool.not_or, Bool.and_comm]

theorem accum_nil (ps : List Prim) : accum [] ps = ps.eraseDups := by
  rw [accum_eq, eraseDups_dd]
  have : ps.filter (fun p => !([] : List Prim).contains p) = ps := by
    rw [List.filter_eq_self]; intro a _; simp
  rw [this]; simp

/-- the conditions under which the two de-duplications agree -/
def GoodLits (ls : List LitVal) : Prop := (∀ v ∈ ls, v ≠ .nan) ∧ ∀ v ∈ ls, ∀ w ∈ ls, (litPrim v).kind = (litPrim w).kind

theorem GoodLits.mono {ls ls' : List LitVal} (hg : GoodLits ls) (hsub : ls' ⊆ ls) : GoodLits ls' :=
  ⟨fun v hv => hg.1 v (hsub hv), fun v hv w hw => hg.2 v (hsub hv) w (hsub hw)⟩

theorem distinct_step (acc : List LitVal) (v : LitVal) (hg : GoodLits (v :: acc)) :
    acc.any (pyEq v) = (acc.map litPrim).contains (litPrim v) := by
  induction acc with
  | nil => rfl
  | cons w acc ih =>
    have hgw : GoodLits (v :: acc) := hg.mono (List.cons_subset_cons v (List.subset_cons_self w acc))
    have e := pyEq_iff (hg.1 v (List.mem_cons_self ..)) (hg.1 w (by simp))
      (hg.2 v (List.mem_cons_self ..) w (by simp))
    simp only [List.any_cons, List.map_cons, List.contains_cons, ih hgw, e]

theorem distinct_map : ∀ (ls acc : List LitVal), GoodLits (acc ++ ls) →
    (ls.foldl (fun acc v => if acc.any (pyEq v) then acc else acc ++ [v]) acc).map litPrim = accum (acc.map litPrim) (ls.map litPrim)
  | [], acc, _ => by simp [accum]
  | v :: ls, acc, hg => by
      have hstep := distinct_step acc v (hg.mono
        (List.cons_subset.2 ⟨List.mem_append_right _ (List.mem_cons_self ..), List.subset_append_left ..⟩))
      rw [List.foldl_cons, List.map_cons, accum, List.foldl_cons, hstep]
      by_cases hc : (acc.map litPrim).contains (litPrim v) = true
      · rw [if_pos hc, if_pos hc]
        exact distinct_map ls acc (hg.mono (List.append_subset.2
          ⟨List.subset_append_left .., List.subset_append_of_subset_right _ (List.subset_cons_self ..)⟩))
      · rw [if_neg hc, if_neg hc]
        have := distinct_map ls (acc ++ [v]) (by rw [List.append_assoc]; exact hg)
        rw [List.map_append] at this
        exact this

theorem distinctVals_map (ls : List LitVal) (hg : GoodLits ls) : (distinctVals ls).map litPrim = (ls.map litPrim).eraseDups := by
  rw [← accum_nil]
  exact distinct_map ls [] (by simpa using hg)

variable (opq : Opaque)

/-- the members of a set literal of literals evaluate to the primitives of their literals, none of which is `nan` -/
theorem litVals_prims {ρ : Env} : ∀ {vs : ExprList} {ls : List LitVal}, litVals? vs = some ls →
    (∀ e ∈ vs.toList, eval opq ρ e = .ok (.prim (primOf opq ρ e))) →
    vs.toList.map (primOf opq ρ) = ls.map litPrim ∧ ∀ v ∈ ls, v ≠ .nan
  | .nil, ls, hl, _ => by
      cases hl
      exact ⟨rfl, fun _ hv => nomatch hv⟩
  | .cons e es, ls, hl, hall => by
      rw [litVals?] at hl
      cases hv : litVal? e with
      | none => rw [hv] at hl; cases hl
      | some v =>
        cases hvs : litVals? es with
        | none => rw [hv, hvs] at hl; cases hl
        | some vs' =>
          rw [hv, hvs] at hl
          cases hl
          obtain ⟨t, k, rfl⟩ := litVal_some hv
          obtain ⟨hp, hnan⟩ := litValue_litPrim (hall _ (List.mem_cons_self ..))
          obtain ⟨ih1, ih2⟩ := litVals_prims hvs (fun e' he' => hall e' (List.mem_cons_of_mem _ he'))
          refine ⟨?_, fun w hw => ?_⟩
          · rw [ExprList.toList, List.map_cons, List.map_cons, ih1, Value.prim.inj hp]
          · rcases List.mem_cons.1 hw with rfl | hm
            · exact hnan
            · exact ih2 w hm

theorem eval_litSet {ρ : Env} {ts : DataType} {vs : ExprList} {ls : List LitVal} {x : Value}
    (hx : eval opq ρ (.set ts vs) = .ok x) (hl : litVals? vs = some ls) : GoodLits ls ∧ x = .set (ls.map litPrim).eraseDups := by
  obtain ⟨hall, hk, rfl⟩ := eval_set_prims opq hx
  obtain ⟨hmap, hnan⟩ := litVals_prims opq hl hall
  rw [hmap] at hk ⊢
  exact ⟨⟨hnan, fun x hx y hy => (sameKinds_iff _).1 hk _ (List.mem_map.2 ⟨x, hx, rfl⟩) _ (List.mem_map.2 ⟨y, hy, rfl⟩)⟩, rfl⟩

theorem len_arg {f : Nat} {ρ : Env} {t : DataType} {args : ExprList} {a : Expr} {v : Value} (hc : OracleClosed opq)
    (ihS : ∀ e r', simp f e = .ok r' → Pres opq r' e) (hv : eval opq ρ (.call t "len" args) = .ok v) (ha : simpArg0 f args = .ok a) :
    ∃ x es, eval opq ρ a = .ok x ∧ elems x = .ok es ∧ v = Value.num (es.length : Nat) := by
  obtain ⟨x, hx, happ⟩ := call_one_arg opq hc (by decide) (fun _ _ _ => rfl) ihS hv ha
  obtain ⟨es, hes, happ⟩ := bind_ok happ
  exact ⟨x, es, hx, hes, (Except.ok.inj happ).symm⟩

theorem eraseDups_idem (l : List Prim) : l.eraseDups.eraseDups = l.eraseDups := by
  have := eraseDups_map_eraseDups (fun (p : Prim) => p) l
  simpa using this

/-- `len` of a set literal of literals is folded to the number of its distinct members -/
theorem fold_len_set {f : Nat} {ρ : Env} {t ts : DataType} {args : ExprList} {vs : ExprList} {ls : List LitVal} {r : Expr} {v : Value}
    (hc : OracleClosed opq) (ihS : ∀ e r', simp f e = .ok r' → Pres opq r' e)
    (hv : eval opq ρ (.call t "len" args) = .ok v)
    (ha : (match args with | .cons a _ => simp f a | .nil => (.error .index : M Expr)) = .ok (.set ts vs))
    (hl : litVals? vs = some ls) (hr : litNumber (.int (distinctVals ls).length) = .ok r) : eval opq ρ r = .ok v := by
  obtain ⟨x, es, hx, hes, rfl⟩ := len_arg opq hc ihS hv (show simpArg0 f args = _ from ha)
  obtain ⟨hgood, rfl⟩ := eval_litSet opq hx hl
  cases hes
  rw [litNumber_eval opq hr ρ, List.length_map, eraseDups_idem, ← distinctVals_map ls hgood, List.length_map]
  rfl

theorem truncRatI_of_isInt {q : Rat} (h : isInt q = true) : truncRatI q = q.num := by
  have hd : q.den = 1 := by simpa [isInt] using h
  have hq : q = (q.num : Rat) := Rat.ext (by simp) (by simp [hd])
  unfold truncRatI
  split
  · rw [hq]; simp [Rat.floor_intCast]
  · rw [hq]; simp [Rat.ceil_intCast]

/-- the integer Python makes of a numeric literal whose value is an integer -/
theorem pyInt_of_value {l : LitVal} {a : Rat} (hl : litValue l = .ok (Value.num a)) (hi : isInt a = true) : pyInt l = .ok a.num := by
  rcases litValue_num hl with ⟨rfl, _⟩ | rfl
  · rfl
  · simp only [pyInt, truncRatI_of_isInt hi]

theorem rangeInts_ok {lo hi : Prim} {exLo exHi : Bool} {is : List Int} (h : rangeInts lo hi exLo exHi = .ok is) :
    ∃ a b : Rat, lo = .num a ∧ hi = .num b ∧ isInt a = true ∧ isInt b = true ∧
      is = intRange (a.num + if exLo then 1 else 0) (b.num + if exHi then 0 else 1) := by
  unfold rangeInts at h
  split at h
  · rename_i a b
    rcases ite_eq h with ⟨hint, h⟩ | ⟨-, h⟩
    · rw [Bool.and_eq_true] at hint
      refine ⟨a, b, rfl, rfl, hint.1, hint.2, ?_⟩
      cases h
      have hub : b.num + (if exHi then 0 else 1) = b.num - (if exHi then 1 else 0) + 1 := by cases exHi <;> simp
      have hsw : ∀ x y : Int, x + 1 - y = x - y + 1 := fun x y => by omega
      rw [intRange, hub, hsw]
    · cases h
  · rcases ite_eq h with ⟨-, h⟩ | ⟨-, h⟩ <;> cases h

theorem eval_litRange {ρ : Env} {tr : DataType} {lo hi : Expr} {exLo exHi : Bool} {l h : LitVal} {x : Value} {es : List Value}
    (hx : eval opq ρ (.range tr lo hi exLo exHi) = .ok x) (hl : numLit? lo = some l) (hh : numLit? hi = some h)
    (hes : elems x = .ok es) :
    ∃ li hi' : Int, pyInt l = .ok li ∧ pyInt h = .ok hi' ∧
      es = (intRange (li + if exLo then 1 else 0) (hi' + if exHi then 0 else 1)).map (fun (i : Int) => Value.num (Rat.ofInt i)) := by
  obtain ⟨tl, kl, rfl⟩ := numLit_some hl
  obtain ⟨th, kh, rfl⟩ := numLit_some hh
  obtain ⟨x1, h1, hx⟩ := bind_ok hx
  obtain ⟨x2, h2, hx⟩ := bind_ok hx
  obtain ⟨p1, hp1, hx⟩ := bind_ok hx
  obtain ⟨p2, hp2, hx⟩ := bind_ok hx
  cases asPrim_ok.1 hp1
  cases asPrim_ok.1 hp2
  rcases ite_eq hx with ⟨-, hx⟩ | ⟨-, hx⟩
  · cases hx
    obtain ⟨is, his, hes⟩ := bind_ok hes
    cases hes
    obtain ⟨a, b, rfl, rfl, hia, hib, rfl⟩ := rangeInts_ok his
    exact ⟨a.num, b.num, pyInt_of_value h1 hia, pyInt_of_value h2 hib, rfl⟩
  · cases hx

theorem rangeBounds_ok {l h : LitVal} {exLo exHi : Bool} {lb ub li hi' : Int} (hb : rangeBounds l h exLo exHi = .ok (lb, ub))
    (hl : pyInt l = .ok li) (hh : pyInt h = .ok hi') : lb = li + (if exLo then 1 else 0) ∧ ub = hi' + (if exHi then 0 else 1) := by
  rw [rangeBounds, hl, hh] at hb
  cases hb
  exact ⟨rfl, rfl⟩

theorem litBounds_cases {α : Type} {lo hi : Expr} {F : LitVal → LitVal → M α} {d : M α} {r : α}
    (h : (match numLit? lo, numLit? hi with | some l, some u => F l u | _, _ => d) = .ok r) :
    (∃ l u, numLit? lo = some l ∧ numLit? hi = some u ∧ F l u = .ok r) ∨ d = .ok r := by
  cases hl : numLit? lo <;> cases hh : numLit? hi <;> rw [hl, hh] at h
  · exact .inr h
  · exact .inr h
  · exact .inr h
  · exact .inl ⟨_, _, rfl, rfl, h⟩

/-- **the folding of `len` is sound** (one of the seven aggregates `AggFoldSound` assumed) -/
theorem len_fold_sound (hc : OracleClosed opq) (f : Nat) (t : DataType) (args : ExprList) (r : Expr)
    (ihS : ∀ e r', simp f e = .ok r' → Pres opq r' e)
    (h : simpCall (f + 1) (.call t "len" args) "len" args = .ok r) : Pres opq r (.call t "len" args) := by
  intro ρ v hv
  rw [simpCall_len] at h
  obtain ⟨a, ha, h⟩ := bind_ok h
  cases a with
  | set ts vs =>
    dsimp only at h
    cases hl : litVals? vs with
    | none => rw [hl] at h; cases h; exact hv
    | some ls => rw [hl] at h; exact fold_len_set opq hc ihS hv ha hl h
  | range tr lo hi exLo exHi =>
    rcases litBounds_cases h with ⟨l, u, hl, hh, h⟩ | h
    · obtain ⟨⟨lb, ub⟩, hb, h⟩ := bind_ok h
      obtain ⟨x, es, hx, hes, rfl⟩ := len_arg opq hc ihS hv ha
      obtain ⟨li, hi', hli, hhi, rfl⟩ := eval_litRange opq hx hl hh hes
      obtain ⟨rfl, rfl⟩ := rangeBounds_ok hb hli hhi
      rw [litNumber_eval opq h ρ, List.length_map, intRange, List.length_map, List.length_range, ← Rat.intCast_natCast]
      rfl
    · cases h
      exact hv
  | lit tl k lv =>
    cases lv with
    | str s =>
      -- the reference semantics gives `len` of a string no value: nothing to preserve
      obtain ⟨x, es, hx, hes, -⟩ := len_arg opq hc ihS hv ha
      cases hx
      cases hes
    | _ => cases h; exact hv
  | _ => cases h; exact hv

theorem distinct_fold_subset : ∀ (ls acc : List LitVal) (d : LitVal),
    d ∈ ls.foldl (fun acc v => if acc.any (pyEq v) then acc else acc ++ [v]) acc → d ∈ acc ∨ d ∈ ls
  | [], acc, d, h => .inl h
  | v :: ls, acc, d, h => by
      simp only [List.foldl_cons] at h
      rcases distinct_fold_subset ls _ d h with h1 | h1
      · split at h1
        · exact .inl h1
        · rcases List.mem_append.1 h1 with h2 | h2
          · exact .inl h2
          · exact .inr (by simp only [List.mem_singleton] at h2; simp [h2])
      · exact .inr (List.mem_cons_of_mem _ h1)

theorem distinctVals_subset {ls : List LitVal} {d : LitVal} (h : d ∈ distinctVals ls) : d ∈ ls := by
  rcases distinct_fold_subset ls [] d h with h1 | h1
  · cases h1
  · exact h1

theorem numLitVals_lit : ∀ {vs : ExprList} {ls : List LitVal}, numLitVals? vs = some ls → litVals? vs = some ls
  | .nil, ls, h => by simpa [numLitVals?, litVals?] using h
  | .cons e es, ls, h => by
      simp only [numLitVals?] at h
      cases hv : numLit? e with
      | none => simp [hv] at h
      | some v =>
        cases hvs : numLitVals? es with
        | none => simp [hv, hvs] at h
        | some vs' =>
          simp only [hv, hvs, Option.some.injEq] at h
          subst h
          obtain ⟨t, k, rfl⟩ := numLit_some hv
          simp only [litVals?, litVal?, numLitVals_lit hvs]

/-- the rational a finite numeric literal denotes -/
def ratOf (d : LitVal) : Rat := match litPrim d with | .num q => q | _ => 0

theorem foldArith (g : Rat → Rat → Rat) : ∀ (ds : List LitVal) (acc z : LitVal) (x : Rat), litValue acc = .ok (Value.num x) →
    (∀ d ∈ ds, d.toRat? = some (ratOf d)) → ds.foldlM (pyArith g) acc = .ok z →
    litValue z = .ok (Value.num (ds.foldl (fun r d => g r (ratOf d)) x))
  | [], acc, z, x, ha, _, h => by
      cases h
      exact ha
  | d :: ds, acc, z, x, ha, hd, h => by
      rw [List.foldlM_cons] at h
      obtain ⟨acc', h1, h2⟩ := bind_ok h
      unfold pyArith at h1
      rw [toRat_of_num ha, hd d (List.mem_cons_self ..)] at h1
      cases h1
      exact foldArith g ds _ z (g x (ratOf d)) (mkNumVal_value _ _) (fun d' hd' => hd d' (List.mem_cons_of_mem _ hd')) h2

theorem mapM_asNum_prims : ∀ (l : List Prim) (qs : List Rat), (l.map Value.prim).mapM asNum = .ok qs → l = qs.map Prim.num
  | [], qs, h => by
      cases h
      rfl
  | p :: l, qs, h => by
      rw [List.map_cons, List.mapM_cons] at h
      obtain ⟨q, hq, h⟩ := bind_ok h
      obtain ⟨qs', hqs, h⟩ := bind_ok h
      cases h
      cases asNum_ok.1 hq
      rw [mapM_asNum_prims l qs' hqs]
      rfl

theorem toRat_of_litPrim {d : LitVal} {q : Rat} (hn : d ≠ .nan) (h : litPrim d = .num q) : d.toRat? = some q ∧ ratOf d = q := by
  cases d <;> simp only [litPrim, Prim.num.injEq] at h <;> first
    | (subst h; exact ⟨rfl, rfl⟩)
    | exact absurd rfl hn
    | cases h

/-- folding an arithmetic aggregate (`sum`, `prod`) over the distinct members of a set literal of literals gives the aggregate of
    the numbers the semantics sees -/
theorem agg_set_core (g : Rat → Rat → Rat) (i0 : Int) {ls : List LitVal} {qs : List Rat} {z : LitVal} (hg : GoodLits ls)
    (hq : ((ls.map litPrim).eraseDups.map Value.prim).mapM asNum = .ok qs)
    (hz : (distinctVals ls).foldlM (pyArith g) (.int i0) = .ok z) : litValue z = .ok (Value.num (qs.foldl g (i0 : Rat))) := by
  have hmap := distinctVals_map ls hg
  have hdps := mapM_asNum_prims _ _ hq
  have hd : ∀ d ∈ distinctVals ls, d.toRat? = some (ratOf d) := by
    intro d hdm
    have hpm : litPrim d ∈ (ls.map litPrim).eraseDups := by rw [← hmap]; exact List.mem_map.2 ⟨d, hdm, rfl⟩
    rw [hdps] at hpm
    obtain ⟨q, _, hq'⟩ := List.mem_map.1 hpm
    obtain ⟨h1, h2⟩ := toRat_of_litPrim (hg.1 d (distinctVals_subset hdm)) hq'.symm
    rw [h2]; exact h1
  have hz' := foldArith g (distinctVals ls) (.int i0) z (i0 : Rat) rfl hd hz
  have hqs : qs = (distinctVals ls).map ratOf := by
    rw [show ratOf = (fun p => match p with | Prim.num q => q | _ => 0) ∘ litPrim from rfl, ← List.map_map, hmap, hdps, List.map_map]
    exact (List.map_id'' (fun _ => rfl) qs).symm
  rw [hz', hqs, List.foldl_map]

/-- what the semantics sees of a set literal of number literals: the numbers of its distinct members -/
theorem set_nums {ρ : Env} {ts : DataType} {vs : ExprList} {ls : List LitVal} {x : Value} {qs : List Rat}
    (hx : eval opq ρ (.set ts vs) = .ok x) (hl : numLitVals? vs = some ls) (hq : numsOf x = .ok qs) :
    GoodLits ls ∧ ((ls.map litPrim).eraseDups.map Value.prim).mapM asNum = .ok qs := by
  obtain ⟨hg, rfl⟩ := eval_litSet opq hx (numLitVals_lit hl)
  rw [numsOf, elems, eraseDups_idem] at hq
  exact ⟨hg, hq⟩

theorem mapM_asNum_ints : ∀ (is : List Int), (is.map (fun (i : Int) => Value.num (Rat.ofInt i))).mapM asNum = .ok (is.map (fun (i : Int) => (i : Rat)))
  | [] => rfl
  | i :: is => by
      simp only [List.map_cons, List.mapM_cons, bind, Except.bind, mapM_asNum_ints is, pure, Except.pure]
      rfl

/-- what the semantics sees of a range literal with literal bounds: the integers the simplifier enumerates -/
theorem range_nums {ρ : Env} {tr : DataType} {lo hi : Expr} {exLo exHi : Bool} {l h : LitVal} {lb ub : Int} {x : Value} {qs : List Rat}
    (hx : eval opq ρ (.range tr lo hi exLo exHi) = .ok x) (hl : numLit? lo = some l) (hh : numLit? hi = some h)
    (hb : rangeBounds l h exLo exHi = .ok (lb, ub)) (hq : numsOf x = .ok qs) : qs = (intRange lb ub).map (fun (i : Int) => (i : Rat)) := by
  obtain ⟨es, hes, hq⟩ := bind_ok hq
  obtain ⟨li, hi', hli, hhi, rfl⟩ := eval_litRange opq hx hl hh hes
  obtain ⟨rfl, rfl⟩ := rangeBounds_ok hb hli hhi
  rw [mapM_asNum_ints] at hq
  exact (Except.ok.inj hq).symm

/-- folding an integer operation over integers, seen as rationals -/
theorem foldl_cast {g : Int → Int → Int} {g' : Rat → Rat → Rat} (hg : ∀ x i : Int, ((g x i : Int) : Rat) = g' x i) :
    ∀ (is : List Int) (x : Int), (is.map (fun (i : Int) => (i : Rat))).foldl g' (x : Rat) = ((is.foldl g x : Int) : Rat)
  | [], _ => rfl
  | i :: is, x => by
      rw [List.map_cons, List.foldl_cons, List.foldl_cons, ← foldl_cast hg is (g x i), hg]

theorem foldl_mul_zero : ∀ (qs : List Rat) (x : Rat), (0 : Rat) ∈ qs → qs.foldl (· * ·) x = 0
  | q :: qs, x, h => by
      simp only [List.foldl_cons]
      rcases List.mem_cons.1 h with h1 | h1
      · rw [← h1, Rat.mul_zero]
        clear h h1
        induction qs with
        | nil => rfl
        | cons q' qs ih => simp only [List.foldl_cons, Rat.zero_mul]; exact ih
      · exact foldl_mul_zero qs _ h1

/-- `prod` of a set literal one of whose members is a zero literal: the product the semantics forms is 0 -/
theorem prod_zero {ρ : Env} {ts : DataType} {vs : ExprList} {x : Value} {qs : List Rat} (hx : eval opq ρ (.set ts vs) = .ok x)
    (hz : vs.toList.any (fun v => match numLit? v with | some x => isZero x | none => false) = true)
    (hqs : numsOf x = .ok qs) : qs.foldl (· * ·) 1 = 0 := by
  obtain ⟨hall, -, rfl⟩ := eval_set_prims opq hx
  rw [numsOf, elems, eraseDups_idem] at hqs
  have hdps := mapM_asNum_prims _ _ hqs
  obtain ⟨e, he, hze⟩ := List.any_eq_true.1 hz
  cases hn : numLit? e with
  | none => rw [hn] at hze; cases hze
  | some y =>
    rw [hn] at hze
    obtain ⟨te, ke, rfl⟩ := numLit_some hn
    obtain ⟨hy, hnan⟩ := litValue_litPrim (hall _ he)
    have hmem : litPrim y ∈ (vs.toList.map (primOf opq ρ)).eraseDups :=
      List.mem_eraseDups.2 (List.mem_map.2 ⟨_, he, Value.prim.inj hy⟩)
    rw [hdps] at hmem
    obtain ⟨q, hq, hqy⟩ := List.mem_map.1 hmem
    cases isZero_num (toRat_of_litPrim hnan hqy.symm).1 hze
    exact foldl_mul_zero qs 1 hq

/-- **the folding of `sum` is sound** -/
theorem sum_fold_sound (hc : OracleClosed opq) (f : Nat) (t : DataType) (args : ExprList) (r : Expr)
    (ihS : ∀ e r', simp f e = .ok r' → Pres opq r' e)
    (h : simpCall (f + 1) (.call t "sum" args) "sum" args = .ok r) : Pres opq r (.call t "sum" args) := by
  intro ρ v hv
  rw [simpCall_sum] at h
  obtain ⟨a, ha, h⟩ := bind_ok h
  obtain ⟨x, hx, happ⟩ := call_one_arg opq hc (by decide) (fun _ _ _ => rfl) ihS hv ha
  obtain ⟨qs, hqs, happ⟩ := bind_ok happ
  cases happ
  cases a with
  | set ts vs =>
    dsimp only at h
    cases hl : numLitVals? vs with
    | none => rw [hl] at h; cases h; exact hv
    | some ls =>
      rw [hl] at h
      obtain ⟨z, hz, h⟩ := bind_ok h
      obtain ⟨hg, hq⟩ := set_nums opq hx hl hqs
      rw [litNumber_eval opq h ρ, agg_set_core (· + ·) 0 hg hq hz, Rat.intCast_zero]
  | range tr lo hi exLo exHi =>
    rcases litBounds_cases h with ⟨l, u, hl, hh, h⟩ | h
    · obtain ⟨⟨lb, ub⟩, hb, h⟩ := bind_ok h
      rw [litNumber_eval opq h ρ, range_nums opq hx hl hh hb hqs, ← Rat.intCast_zero, foldl_cast Rat.intCast_add]
      rfl
    · cases h
      exact hv
  | _ => cases h; exact hv

/-- **the folding of `prod` is sound** -/
theorem prod_fold_sound (hc : OracleClosed opq) (f : Nat) (t : DataType) (args : ExprList) (r : Expr)
    (ihS : ∀ e r', simp f e = .ok r' → Pres opq r' e)
    (h : simpCall (f + 1) (.call t "prod" args) "prod" args = .ok r) : Pres opq r (.call t "prod" args) := by
  intro ρ v hv
  rw [simpCall_prod] at h
  obtain ⟨a, ha, h⟩ := bind_ok h
  obtain ⟨x, hx, happ⟩ := call_one_arg opq hc (by decide) (fun _ _ _ => rfl) ihS hv ha
  obtain ⟨qs, hqs, happ⟩ := bind_ok happ
  cases happ
  cases a with
  | set ts vs =>
    rcases ite_eq h with ⟨hz, h⟩ | ⟨-, h⟩
    · rw [litNumber_eval opq h ρ, prod_zero opq hx hz hqs]
      rfl
    · cases hl : numLitVals? vs with
      | none => rw [hl] at h; cases h; exact hv
      | some ls =>
        rw [hl] at h
        obtain ⟨z, hz, h⟩ := bind_ok h
        obtain ⟨hg, hq⟩ := set_nums opq hx hl hqs
        rw [litNumber_eval opq h ρ, agg_set_core (· * ·) 1 hg hq hz, Rat.intCast_one]
  | range tr lo hi exLo exHi =>
    rcases litBounds_cases h with ⟨l, u, hl, hh, h⟩ | h
    · obtain ⟨⟨lb, ub⟩, hb, h⟩ := bind_ok h
      rcases ite_eq h with ⟨-, h⟩ | ⟨-, h⟩
      · cases h
      · rw [litNumber_eval opq h ρ, range_nums opq hx hl hh hb hqs, ← Rat.intCast_one, foldl_cast Rat.intCast_mul]
        rfl
    · cases h
      exact hv
  | _ => cases h; exact hv

end Hpl
