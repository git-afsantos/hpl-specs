import Hpl.Props.C01b
import Hpl.Props.C18c
/-!
# C01 — the parser is sound for the grammar: whatever it returns, the grammar assigns

The converse of `parse_complete` (`Props/C01b`): if a function of the recursive-descent parser reads a phrase, the tokens it consumed
are a phrase of the corresponding grammar level (`Renders`) with exactly the returned tree.  With completeness:
`parseExpressionToks ts = ok e ↔ Renders 0 e ts` — a token sequence is accepted exactly when the grammar derives it, and then with
the tree the grammar assigns (`parse_sound`, `parse_iff_renders`); every other sequence is rejected (`parse_rejects_iff`).  The same inside
braces (`parse_predicate_sound`, `parse_predicate_iff`), and `parens_transparent`: redundant parentheses never change the result.
-/
namespace Hpl

/-- the result of a parser function on `ts` is a phrase of level `k` read from a prefix of `ts` -/
def Snd (k : Nat) (ts : List Tok) (x : PR (Raw × List Tok)) : Prop :=
  ∀ r rest, x = .ok (r, rest) → ∃ pre, ts = pre ++ rest ∧ Renders k r pre

/-- a loop that continues the phrase `a` -/
def SndLoop (k : Nat) (a : Raw) (ts : List Tok) (x : PR (Raw × List Tok)) : Prop :=
  ∀ pa, Renders k a pa → ∀ r rest, x = .ok (r, rest) → ∃ pre, ts = pre ++ rest ∧ Renders k r (pa ++ pre)

/-- the members of a set literal read so far, in source order -/
def rlOf (acc : List Raw) : RawList := acc.reverse.foldr (fun e es => RawList.cons e es) .nil

theorem rlOf_cons (a : Raw) (acc : List Raw) : rlOf (a :: acc) = rawSnoc (rlOf acc) a := by
  unfold rlOf
  rw [List.reverse_cons]
  generalize acc.reverse = l
  induction l with
  | nil => rfl
  | cons x xs ih => simp only [List.cons_append, List.foldr_cons, rawSnoc, ih]

structure SndAt (f : Nat) : Prop where
  cond : ∀ ts, Snd 0 ts (pCondition f ts)
  condLoop : ∀ a ts, SndLoop 0 a ts (pCondLoop f a ts)
  disj : ∀ ts, Snd 1 ts (pDisjunction f ts)
  disjLoop : ∀ a ts, SndLoop 1 a ts (pDisjLoop f a ts)
  conj : ∀ ts, Snd 2 ts (pConjunction f ts)
  conjLoop : ∀ a ts, SndLoop 2 a ts (pConjLoop f a ts)
  logic : ∀ ts, Snd 3 ts (pLogic f ts)
  atomicCond : ∀ ts, Snd 4 ts (pAtomicCondition f ts)
  expr : ∀ ts, Snd 5 ts (pExpr f ts)
  exprLoop : ∀ a ts, SndLoop 5 a ts (pExprLoop f a ts)
  term : ∀ ts, Snd 6 ts (pTerm f ts)
  termLoop : ∀ a ts, SndLoop 6 a ts (pTermLoop f a ts)
  factor : ∀ ts, Snd 7 ts (pFactor f ts)
  factorLoop : ∀ a ts, SndLoop 7 a ts (pFactorLoop f a ts)
  exponent : ∀ ts, Snd 8 ts (pExponent f ts)
  atomic : ∀ ts, Snd 9 ts (pAtomicValue f ts)
  setTail : ∀ acc ts pa, Renders 11 (.set (rlOf acc)) pa → ∀ r rest, pSetTail f acc ts = .ok (r, rest) →
    ∃ pre c es, ts = pre ++ c :: rest ∧ isSym c "}" = true ∧ r = .set es ∧ Renders 11 (.set es) (pa ++ pre)
  rangeBody : ∀ exLo ts r rest, pRangeBody f exLo ts = .ok (r, rest) →
    ∃ lo hi tl th kto c, ts = tl ++ kto :: (th ++ c :: rest) ∧ isKw kto "to" = true ∧ (isSym c "]" || isSym c "]!") = true ∧
      Renders 5 lo tl ∧ Renders 5 hi th ∧ r = .range lo hi exLo (c.text == "]!")
  refTail : ∀ r0 ts p0, Renders 10 r0 p0 → ∀ r rest, pRefTail f r0 ts = .ok (r, rest) → ∃ pre, ts = pre ++ rest ∧ Renders 10 r (p0 ++ pre)

theorem Snd.err {k : Nat} {ts : List Tok} : Snd k ts perr := fun _ _ h => nomatch h
theorem SndLoop.err {k : Nat} {a : Raw} {ts : List Tok} : SndLoop k a ts perr := fun _ _ _ _ h => nomatch h

theorem sndAt_zero : SndAt 0 := by
  constructor <;> intros <;> first | exact Snd.err | exact SndLoop.err | contradiction

theorem snd_level {f k : Nat} (hl : isLoopLevel k = true) (ihSub : ∀ ts, Snd (k + 1) ts (pL (k + 1) f ts))
    (ihLoop : ∀ a ts, SndLoop k a ts (loopL k f a ts)) :
    (∀ ts, Snd k ts (pL k (f + 1) ts)) ∧ ∀ a ts, SndLoop k a ts (loopL k (f + 1) a ts) := by
  have hk : k < 9 ∧ k ≠ 3 := by
    simp only [isLoopLevel, Bool.or_eq_true, beq_iff_eq] at hl
    omega
  refine ⟨fun ts r rest h => ?_, fun a ts pa hpa r rest h => ?_⟩
  · rw [pL_loop_eq hl] at h
    obtain ⟨a, ts1, h1, h2⟩ := bind_ok_pair h
    obtain ⟨pre1, rfl, hr1⟩ := ihSub ts a ts1 h1
    obtain ⟨pre2, rfl, hr2⟩ := ihLoop a ts1 pre1 (.up hk.1 (fun h3 => absurd h3 hk.2) hr1) r rest h2
    exact ⟨pre1 ++ pre2, by simp, hr2⟩
  · rw [loopL_eq hl] at h
    cases ts with
    | nil =>
      obtain ⟨rfl, rfl⟩ := ok_pair_inj h
      exact ⟨[], rfl, by simpa using hpa⟩
    | cons t r0 =>
      rcases ite_eq h with ⟨ht, h⟩ | ⟨_, h⟩
      · obtain ⟨b, ts', h1, h2⟩ := bind_ok_pair h
        obtain ⟨pre1, rfl, hr1⟩ := ihSub r0 b ts' h1
        obtain ⟨pre2, rfl, hr2⟩ := ihLoop _ ts' (pa ++ t :: pre1) (.binL t hl ht hpa hr1) r rest h2
        exact ⟨t :: (pre1 ++ pre2), by simp, by simpa using hr2⟩
      · obtain ⟨rfl, rfl⟩ := ok_pair_inj h
        exact ⟨[], rfl, by simpa using hpa⟩

theorem sndAt_succ (f : Nat) (ih : SndAt f) : SndAt (f + 1) where
  cond := (snd_level (k := 0) rfl ih.disj ih.condLoop).1
  condLoop := (snd_level (k := 0) rfl ih.disj ih.condLoop).2
  disj := (snd_level (k := 1) rfl ih.conj ih.disjLoop).1
  disjLoop := (snd_level (k := 1) rfl ih.conj ih.disjLoop).2
  conj := (snd_level (k := 2) rfl ih.logic ih.conjLoop).1
  conjLoop := (snd_level (k := 2) rfl ih.logic ih.conjLoop).2
  expr := (snd_level (k := 5) rfl ih.term ih.exprLoop).1
  exprLoop := (snd_level (k := 5) rfl ih.term ih.exprLoop).2
  term := (snd_level (k := 6) rfl ih.factor ih.termLoop).1
  termLoop := (snd_level (k := 6) rfl ih.factor ih.termLoop).2
  factor := (snd_level (k := 7) rfl ih.exponent ih.factorLoop).1
  factorLoop := (snd_level (k := 7) rfl ih.exponent ih.factorLoop).2
  logic := by
    intro ts r rest h
    cases ts with
    | nil => cases h
    | cons t r0 =>
      rcases ite_eq h with ⟨ht, h⟩ | ⟨ht, h⟩
      · obtain ⟨a, ts', h1, h2⟩ := bind_ok_pair h
        obtain ⟨rfl, rfl⟩ := pure_pair_inj h2
        obtain ⟨pre, rfl, hr⟩ := ih.logic r0 a ts' h1
        exact ⟨t :: pre, rfl, .not t ht hr⟩
      · rcases ite_eq h with ⟨hq, h⟩ | ⟨hq, h⟩
        · match r0, h with
          | v :: kin :: rest2, h =>
            obtain ⟨hv, h⟩ := ite_perr h
            obtain ⟨d, ts2, h1, h2⟩ := bind_ok_pair h
            obtain ⟨c, rest3, rfl, hc, h2⟩ := expect_ok h2
            obtain ⟨b, ts3, h3, h4⟩ := bind_ok_pair h2
            obtain ⟨rfl, rfl⟩ := pure_pair_inj h4
            obtain ⟨pd, rfl, hrd⟩ := ih.atomic rest2 d (c :: rest3) h1
            obtain ⟨pb, rfl, hrb⟩ := ih.logic rest3 b ts3 h3
            simp only [Bool.and_eq_true, beq_iff_eq] at hv
            exact ⟨t :: v :: kin :: (pd ++ c :: pb), by simp, .quant t v kin c hq hv.1.1 hv.1.2 hv.2 hc hrd hrb⟩
          | [], h => cases h
          | [_], h => cases h
        · obtain ⟨pre, hpre, hr⟩ := ih.atomicCond (t :: r0) r rest h
          refine ⟨pre, hpre, .up (by omega) (fun _ t' ts' he => ?_) hr⟩
          subst he
          simp only [List.cons_append, List.cons.injEq] at hpre
          obtain ⟨rfl, _⟩ := hpre
          simp only [Bool.not_eq_true] at ht hq
          simp only [Bool.or_eq_false_iff] at hq
          simp only [isLogicKw, ht, hq.1, hq.2, Bool.or_self]
  atomicCond := by
    intro ts r rest h
    obtain ⟨a, ts1, h1, h2⟩ := bind_ok_pair h
    obtain ⟨pa, rfl, hra⟩ := ih.expr ts a ts1 h1
    have plain : ∀ {ts1}, (pure (a, ts1) : PR (Raw × List Tok)) = .ok (r, rest) → ∃ pre, pa ++ ts1 = pre ++ rest ∧ Renders 4 r pre := by
      intro ts1 h2
      obtain ⟨rfl, rfl⟩ := pure_pair_inj h2
      exact ⟨pa, rfl, .up (by omega) (fun h => by omega) hra⟩
    match ts1, h2 with
    | [], h2 => exact plain h2
    | t :: r1, h2 =>
      have op : ∀ {s}, relTest t = true → t.text = s → (pExpr f r1 >>= fun x => pure (Raw.bin s a x.fst, x.snd)) = .ok (r, rest) →
          ∃ pre, pa ++ t :: r1 = pre ++ rest ∧ Renders 4 r pre := by
        intro s ht hs h2
        obtain ⟨b, ts', h3, h4⟩ := bind_ok_pair h2
        obtain ⟨rfl, rfl⟩ := pure_pair_inj h4
        obtain ⟨pb, rfl, hrb⟩ := ih.expr r1 b ts' h3
        exact ⟨pa ++ t :: pb, by simp, hs ▸ .rel t ht hra hrb⟩
      rcases ite_eq h2 with ⟨hc, h2⟩ | ⟨_, h2⟩
      · exact op (by simp only [relTest, hc, Bool.true_or]) rfl h2
      · rcases ite_eq h2 with ⟨hi, h2⟩ | ⟨_, h2⟩
        · exact op (by simp only [relTest, hi, Bool.or_true]) (isKw_text hi) h2
        · exact plain h2
  exponent := by
    intro ts r rest h
    cases ts with
    | nil => cases h
    | cons t r0 =>
      rcases ite_eq h with ⟨ht, h⟩ | ⟨_, h⟩
      · obtain ⟨a, ts', h1, h2⟩ := bind_ok_pair h
        obtain ⟨rfl, rfl⟩ := pure_pair_inj h2
        obtain ⟨pre, rfl, hr⟩ := ih.exponent r0 a ts' h1
        exact ⟨t :: pre, rfl, .neg t ht hr⟩
      · rcases ite_eq h with ⟨hp, h⟩ | ⟨_, h⟩
        · obtain ⟨a, ts', h1, h2⟩ := bind_ok_pair h
          obtain ⟨pre, rfl, hr⟩ := ih.cond r0 a ts' h1
          obtain ⟨c, rest2, rfl, hc, h2⟩ := expect_ok h2
          obtain ⟨rfl, rfl⟩ := pure_pair_inj h2
          exact ⟨t :: (pre ++ [c]), by simp, .paren t c hp hc hr⟩
        · obtain ⟨pre, hpre, hr⟩ := ih.atomic (t :: r0) r rest h
          exact ⟨pre, hpre, .up (by omega) (fun h => by omega) hr⟩
  atomic := by
    intro ts r rest h
    cases ts with
    | nil => cases h
    | cons t r0 =>
      simp only [pAtomicValue] at h
      cases hk : t.kind with
      | str =>
        simp only [hk] at h
        obtain ⟨rfl, rfl⟩ := ok_pair_inj h
        exact ⟨[t], rfl, .str t hk⟩
      | num =>
        simp only [hk] at h
        cases hd : decimalValue t.text with
        | none => simp only [hd] at h; cases h
        | some v =>
          simp only [hd] at h
          obtain ⟨rfl, rfl⟩ := ok_pair_inj h
          exact ⟨[t], rfl, .num t v hk hd⟩
      | var =>
        simp only [hk] at h
        obtain ⟨pre, rfl, hr⟩ := ih.refTail (.var t.text) r0 [t] (.var t hk) r rest h
        exact ⟨t :: pre, rfl, .ref hr⟩
      | word =>
        simp only [hk] at h
        rcases ite_eq h with ⟨_, h⟩ | ⟨hcn, h⟩
        · cases h
        rcases ite_eq h with ⟨htrue, h⟩ | ⟨htrue, h⟩
        · obtain ⟨rfl, rfl⟩ := ok_pair_inj h
          exact ⟨[t], rfl, .true_ t hk (by simpa using htrue)⟩
        rcases ite_eq h with ⟨hfalse, h⟩ | ⟨hfalse, h⟩
        · obtain ⟨rfl, rfl⟩ := ok_pair_inj h
          exact ⟨[t], rfl, .false_ t hk (by simpa using hfalse)⟩
        rcases ite_eq h with ⟨hconst, h⟩ | ⟨hconst, h⟩
        · simp only [Bool.and_eq_true, Bool.not_eq_true'] at hconst
          cases hv : numberConstant t.text with
          | none => simp only [hv] at h; cases h
          | some v =>
            simp only [hv] at h
            obtain ⟨rfl, rfl⟩ := ok_pair_inj h
            exact ⟨[t], rfl, .const t v hk hconst.1 hv⟩
        have hname : isNameTok t = true := by
          simp only [Bool.not_eq_true', Bool.not_eq_false] at hcn
          simp only [isNameTok, hcn, Bool.true_and, Bool.and_eq_true, bne_iff_ne, ne_eq, Bool.not_eq_true']
          exact ⟨⟨by simpa using htrue, by simpa using hfalse⟩, by simpa using hconst⟩
        match r0, h with
        | [], h =>
          obtain ⟨rfl, rfl⟩ := ok_pair_inj h
          exact ⟨[t], rfl, .ref (.own t hk hname)⟩
        | o :: rest2, h =>
          rcases ite_eq h with ⟨ho, h⟩ | ⟨_, h⟩
          · obtain ⟨a, ts', h1, h2⟩ := bind_ok_pair h
            obtain ⟨pa, rfl, hra⟩ := ih.expr rest2 a ts' h1
            obtain ⟨c, rest3, rfl, hc, h2⟩ := expect_ok h2
            obtain ⟨rfl, rfl⟩ := pure_pair_inj h2
            exact ⟨t :: o :: (pa ++ [c]), by simp, .call t o c hk hname ho hc hra⟩
          · obtain ⟨pre, hpre, hr⟩ := ih.refTail (.field .this t.text) (o :: rest2) [t] (.own t hk hname) r rest h
            exact ⟨t :: pre, by rw [hpre]; rfl, .ref hr⟩
      | sym =>
        simp only [hk] at h
        have range : ∀ {s ex}, t.text = s → (isSym t "[" || isSym t "![") = true → pRangeBody f ex r0 = .ok (r, rest) →
            (s == "![") = ex → ∃ pre, t :: r0 = pre ++ rest ∧ Renders 9 r pre := by
          intro s ex ht ho h hex
          obtain ⟨lo, hi, tl, th, kto, c, rfl, hto, hc, hlo, hhi, rfl⟩ := ih.rangeBody ex r0 r rest h
          have := Renders.range t kto c ho hto hc hlo hhi
          rw [ht, hex] at this
          exact ⟨t :: (tl ++ kto :: (th ++ [c])), by simp, this⟩
        rcases ite_eq h with ⟨hb, h⟩ | ⟨_, h⟩
        · have hsym : isSym t "{" = true := by simp only [isSym, hk, hb, beq_self_eq_true, Bool.and_self]
          obtain ⟨a, ts', h1, h2⟩ := bind_ok_pair h
          obtain ⟨pa, rfl, hra⟩ := ih.expr r0 a ts' h1
          obtain ⟨pre, c, es, rfl, hc, rfl, hres⟩ := ih.setTail [a] ts' pa (.setOne hra) r rest h2
          exact ⟨t :: ((pa ++ pre) ++ [c]), by simp, .set t c hsym hc hres⟩
        rcases ite_eq h with ⟨hl, h⟩ | ⟨_, h⟩
        · have ht : t.text = "[" := by simpa using hl
          exact range ht (by simp only [isSym, hk, ht]; decide) h (by decide)
        obtain ⟨hl, h⟩ := ite_perr h
        have ht : t.text = "![" := by simpa using hl
        exact range ht (by simp only [isSym, hk, ht]; decide) h (by decide)
  setTail := by
    intro acc ts pa hpa r rest h
    cases ts with
    | nil => cases h
    | cons t r0 =>
      rcases ite_eq h with ⟨ht, h⟩ | ⟨_, h⟩
      · obtain ⟨rfl, rfl⟩ := ok_pair_inj h
        exact ⟨[], t, rlOf acc, rfl, ht, rfl, by simpa using hpa⟩
      · obtain ⟨hcm, h⟩ := ite_perr h
        obtain ⟨a, ts', h1, h2⟩ := bind_ok_pair h
        obtain ⟨pe, rfl, hre⟩ := ih.expr r0 a ts' h1
        have hmore : Renders 11 (.set (rlOf (a :: acc))) (pa ++ t :: pe) := by
          rw [rlOf_cons]; exact .setMore t hcm hpa hre
        obtain ⟨pre, c, es, rfl, hc, rfl, hres⟩ := ih.setTail (a :: acc) ts' _ hmore r rest h2
        exact ⟨t :: (pe ++ pre), c, es, by simp, hc, rfl, by simpa using hres⟩
  rangeBody := by
    intro exLo ts r rest h
    obtain ⟨lo, ts1, h1, h2⟩ := bind_ok_pair h
    obtain ⟨tl, rfl, hlo⟩ := ih.expr ts lo ts1 h1
    match ts1, h2 with
    | [], h2 => cases h2
    | t :: r1, h2 =>
      obtain ⟨hto, h2⟩ := ite_perr h2
      obtain ⟨hi, ts2, h3, h4⟩ := bind_ok_pair h2
      obtain ⟨th, rfl, hhi⟩ := ih.expr r1 hi ts2 h3
      match ts2, h4 with
      | [], h4 => cases h4
      | c :: rest2, h4 =>
        rcases ite_eq h4 with ⟨hc, h4⟩ | ⟨_, h4⟩
        · obtain ⟨rfl, rfl⟩ := pure_pair_inj h4
          refine ⟨lo, hi, tl, th, t, c, by simp, hto, by simp only [hc, Bool.true_or], hlo, hhi, ?_⟩
          rw [isSym_text hc]; rfl
        · obtain ⟨hc, h4⟩ := ite_perr h4
          obtain ⟨rfl, rfl⟩ := pure_pair_inj h4
          refine ⟨lo, hi, tl, th, t, c, by simp, hto, by simp only [hc, Bool.or_true], hlo, hhi, ?_⟩
          rw [isSym_text hc]; rfl
  refTail := by
    intro r0 ts p0 hp0 r rest h
    have stop : ∀ {ts}, (Except.ok (r0, ts) : PR (Raw × List Tok)) = .ok (r, rest) → ∃ pre, ts = pre ++ rest ∧ Renders 10 r (p0 ++ pre) := by
      intro ts h
      obtain ⟨rfl, rfl⟩ := ok_pair_inj h
      exact ⟨[], rfl, by simpa using hp0⟩
    cases ts with
    | nil => exact stop h
    | cons t r1 =>
      rcases ite_eq h with ⟨hd, h⟩ | ⟨_, h⟩
      · match r1, h with
        | [], h => cases h
        | n :: rest2, h =>
          obtain ⟨hn, h⟩ := ite_perr h
          simp only [Bool.and_eq_true, beq_iff_eq] at hn
          obtain ⟨pre, rfl, hr⟩ := ih.refTail (.field r0 n.text) rest2 (p0 ++ [t, n]) (.field t n hd hn.1 hn.2 hp0) r rest h
          exact ⟨t :: n :: pre, rfl, by simpa using hr⟩
      · rcases ite_eq h with ⟨hb, h⟩ | ⟨_, h⟩
        · obtain ⟨i, ts', h1, h2⟩ := bind_ok_pair h
          obtain ⟨pi, rfl, hri⟩ := ih.expr r1 i ts' h1
          obtain ⟨c, rest2, rfl, hc, h2⟩ := expect_ok h2
          obtain ⟨pre, rfl, hr⟩ := ih.refTail (.index r0 i) rest2 (p0 ++ t :: (pi ++ [c])) (.index t c hb hc hp0 hri) r rest h2
          exact ⟨t :: (pi ++ c :: pre), by simp, by simpa using hr⟩
        · exact stop h

theorem parse_snd : ∀ f, SndAt f
  | 0 => sndAt_zero
  | f + 1 => sndAt_succ f (parse_snd f)

/-- **C01, soundness**: whatever the expression parser returns, the grammar assigns to the whole token sequence -/
theorem parse_sound {ts : List Tok} {e : Raw} (h : parseExpressionToks ts = .ok e) : Renders 0 e ts := by
  obtain ⟨r, rest, hp, h⟩ := bind_ok_pair h
  cases rest with
  | cons _ _ => cases h
  | nil =>
    cases h
    obtain ⟨pre, hpre, hr⟩ := (parse_snd _).cond ts e [] hp
    rw [List.append_nil] at hpre
    exact hpre ▸ hr

/-- **C01: the parser accepts exactly the token sequences the grammar derives, with exactly the tree the grammar assigns** -/
theorem parse_iff_renders (ts : List Tok) (e : Raw) : parseExpressionToks ts = .ok e ↔ Renders 0 e ts :=
  ⟨parse_sound, parse_complete⟩

/-- … so a token sequence that the grammar does not derive is rejected (the only parse failure is the syntax error), never parsed
    into something else -/
theorem parse_rejects_iff (ts : List Tok) : parseExpressionToks ts = .error () ↔ ¬ ∃ e, Renders 0 e ts := by
  constructor
  · rintro h ⟨e, he⟩
    rw [parse_complete he] at h
    cases h
  · intro h
    cases hp : parseExpressionToks ts with
    | error x => rfl
    | ok e => exact absurd ⟨e, parse_sound hp⟩ h

/-- the same for predicates: accepted exactly when the text is `{`, a `condition` of the grammar, `}` -/
theorem parse_predicate_sound {ts : List Tok} {e : Raw} (h : parsePredicateToks ts = .ok e) :
    ∃ o mid c, ts = o :: (mid ++ [c]) ∧ isSym o "{" = true ∧ isSym c "}" = true ∧ Renders 0 e mid := by
  obtain ⟨r, rest, hp, h⟩ := bind_ok_pair h
  cases rest with
  | cons _ _ => cases h
  | nil =>
    cases h
    cases ts with
    | nil => cases hp
    | cons t r0 =>
      obtain ⟨ho, hp⟩ := ite_perr hp
      obtain ⟨a, ts', h1, h2⟩ := bind_ok_pair hp
      obtain ⟨pre, rfl, hr⟩ := (parse_snd _).cond r0 a ts' h1
      obtain ⟨c, rest2, rfl, hc, h2⟩ := expect_ok h2
      obtain ⟨rfl, rfl⟩ := pure_pair_inj h2
      exact ⟨t, pre, c, rfl, ho, hc, hr⟩

theorem parse_predicate_iff (ts : List Tok) (e : Raw) :
    parsePredicateToks ts = .ok e ↔ ∃ o mid c, ts = o :: (mid ++ [c]) ∧ isSym o "{" = true ∧ isSym c "}" = true ∧ Renders 0 e mid :=
  ⟨parse_predicate_sound, fun ⟨o, _, c, hts, ho, hc, hr⟩ => hts ▸ parse_predicate_complete hr o c ho hc⟩

/-- non-vacuity: `x = not + 1` - the word `not` after a relational operator is a field name - is derived by the grammar (and
    therefore parsed); `not = 1` is not derived by the grammar (and therefore rejected) -/
example : parseExpressionToks [wordT "x", symT "=", wordT "not", symT "+", wordT "y"] =
    .ok (.bin "=" (.field .this "x") (.bin "+" (.field .this "not") (.field .this "y"))) := by
  apply parse_complete
  have hx : Renders 5 (.field .this "x") [wordT "x"] := upTo 4 5 (by omega) (.ref (.own (wordT "x") rfl (by decide)))
  have hn : Renders 5 (.field .this "not") [wordT "not"] := upTo 4 5 (by omega) (.ref (.own (wordT "not") rfl (by decide)))
  have hy : Renders 6 (.field .this "y") [wordT "y"] := upTo 3 6 (by omega) (.ref (.own (wordT "y") rfl (by decide)))
  have hsum : Renders 5 (.bin "+" (.field .this "not") (.field .this "y")) ([wordT "not"] ++ symT "+" :: [wordT "y"]) :=
    .binL (symT "+") (by decide) (by decide) hn hy
  have := Renders.rel (symT "=") (by decide) hx hsum
  exact upTo 4 0 (by omega) this

example : ¬ ∃ e, Renders 0 e [wordT "not", symT "=", wordT "y"] := (parse_rejects_iff _).1 (by rfl)

/-- **redundant parentheses never change the result**: a text that parses, put in parentheses, parses to the same tree -/
theorem parens_transparent {ts : List Tok} {e : Raw} (o c : Tok) (ho : isSym o "(" = true) (hc : isSym c ")" = true)
    (h : parseExpressionToks ts = .ok e) : parseExpressionToks (o :: (ts ++ [c])) = .ok e := by
  apply parse_complete
  have h8 : Renders 8 e (o :: (ts ++ [c])) := .paren o c ho hc (parse_sound h)
  exact upTo 8 0 (by omega) h8 (fun _ _ => headOk_cons (notLogic_of_sym ho) _)

end Hpl
