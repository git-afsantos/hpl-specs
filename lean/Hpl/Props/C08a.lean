import Hpl.Props.C08
import Hpl.Lemmas.BinOp
import Hpl.Lemmas.Simplify
/-!
# C08 — soundness of the rule functions of `simplify` (value level)

`Pres e' e`: wherever the original `e` evaluates without error, `e'` evaluates to the same value (`Preserves` of
`Props/C08`, stated on `eval` directly). This file proves it for the non-recursive rule functions, given the
operands as they are (the recursion is assembled in `C08c`).
-/
namespace Hpl
section
variable (opq : Opaque)

def Pres (e' e : Expr) : Prop := ∀ ρ v, eval opq ρ e = .ok v → eval opq ρ e' = .ok v

theorem Pres.refl (e : Expr) : Pres opq e e := fun _ _ h => h
theorem Pres.trans {a b c : Expr} (h1 : Pres opq a b) (h2 : Pres opq b c) : Pres opq a c := fun ρ v h => h1 ρ v (h2 ρ v h)

theorem pres_iff_preserves (e' e : Expr) : Pres opq e' e ↔ Preserves opq e' e := by
  unfold Pres Preserves evalO
  constructor
  · intro h ρ v hv; rw [toOption_eq_some] at hv ⊢; exact h ρ v hv
  · intro h ρ v hv; have := h ρ v (toOption_eq_some.2 hv); exact toOption_eq_some.1 this

/-! ## evaluation of operator nodes, inverted -/

theorem evalList_cons_ok {ρ : Env} {e : Expr} {es : ExprList} {vs : List Value} :
    evalList opq ρ (.cons e es) = .ok vs ↔ ∃ x xs, eval opq ρ e = .ok x ∧ evalList opq ρ es = .ok xs ∧ vs = x :: xs := by
  constructor
  · intro h
    obtain ⟨x, hx, h⟩ := bind_ok h
    obtain ⟨xs, hxs, h⟩ := bind_ok h
    exact ⟨x, xs, hx, hxs, (Except.ok.inj h).symm⟩
  · rintro ⟨x, xs, hx, hxs, rfl⟩
    show (do let v ← eval opq ρ e; let vs ← evalList opq ρ es; pure (v :: vs)) = _
    rw [hx, hxs]
    rfl

theorem eval_bin_ok {ρ : Env} {t : DataType} {op : String} {a b : Expr} {v : Value} :
    eval opq ρ (.bin t op a b) = .ok v ↔ ∃ x y, eval opq ρ a = .ok x ∧ eval opq ρ b = .ok y ∧ binOp op x y = .ok v :=
  bind_ok_iff.trans (exists_congr fun _ => (and_congr_right fun _ => bind_ok_iff).trans exists_and_left.symm)

theorem eval_un_ok {ρ : Env} {t : DataType} {op : String} {a : Expr} {v : Value} :
    eval opq ρ (.un t op a) = .ok v ↔ ∃ x, eval opq ρ a = .ok x ∧ unOp op x = .ok v :=
  bind_ok_iff

theorem asNum_ok {v : Value} {q : Rat} : asNum v = .ok q ↔ v = Value.num q := by
  constructor
  · intro h
    cases v with
    | prim p =>
      cases p <;> cases h
      rfl
    | _ => cases h
  · rintro rfl
    rfl

theorem asBool_ok {v : Value} {b : Bool} : asBool v = .ok b ↔ v = Value.bool b := by
  constructor
  · intro h
    cases v with
    | prim p =>
      cases p <;> cases h
      rfl
    | _ => cases h
  · rintro rfl
    rfl

theorem num_inj (a b : Rat) (h : Value.num a = Value.num b) : a = b := by
  cases h; rfl
theorem bool_inj (a b : Bool) (h : Value.bool a = Value.bool b) : a = b := by
  cases h; rfl

/-- both operands of an arithmetic operator are finite numbers when the application evaluates -/
theorem arith_ok {f : Rat → Rat → Rat} {op : String} (hop : ∀ a b, binOp op a b = (do let x ← asNum a; let y ← asNum b; pure (Value.num (f x y))))
    {x y v : Value} (h : binOp op x y = .ok v) : ∃ qx qy, x = Value.num qx ∧ y = Value.num qy ∧ v = Value.num (f qx qy) := by
  rw [hop] at h
  obtain ⟨qx, hx, h⟩ := bind_ok h
  obtain ⟨qy, hy, h⟩ := bind_ok h
  exact ⟨qx, qy, asNum_ok.1 hx, asNum_ok.1 hy, (Except.ok.inj h).symm⟩

/-! ## the `obviously different` test -/

theorem un_of_match {p : String → Bool} {a b : Expr}
    (h : (match b with | .un _ op2 y => p op2 && y == a | _ => false) = true) : ∃ t op, p op = true ∧ b = .un t op a := by
  cases b with
  | un t2 op2 y =>
    rw [Bool.and_eq_true] at h
    cases eq_of_beq h.2
    exact ⟨t2, op2, h.1, rfl⟩
  | _ => cases h

theorem obviouslyDifferent_cases {a b : Expr} (h : obviouslyDifferent a b = true) :
    (∃ t, a = .un t Gen.NOT_OPERATOR b) ∨ (∃ t, b = .un t Gen.NOT_OPERATOR a) ∨
    ∃ t op tk kk lv, a = .bin t op b (.lit tk kk lv) ∧ (op = "+" ∨ op = "-") ∧ isZero lv = false := by
  have neg : ∀ a, (match b with | .un _ op2 y => op2 == Gen.NOT_OPERATOR && y == a | _ => false) = true →
      ∃ t, b = .un t Gen.NOT_OPERATOR a := fun a h => by
    obtain ⟨t, op, hop, rfl⟩ := un_of_match h
    cases eq_of_beq hop
    exact ⟨t, rfl⟩
  cases a with
  | un t op x =>
    rcases ite_eq h with ⟨ho, h⟩ | ⟨-, h⟩
    · cases eq_of_beq ho
      cases eq_of_beq h
      exact .inl ⟨t, rfl⟩
    · exact .inr (.inl (neg _ h))
  | bin t op x k =>
    rcases Bool.or_eq_true_iff.1 h with h | h
    · exact .inr (.inl (neg _ h))
    · rw [Bool.and_eq_true, Bool.and_eq_true, Bool.or_eq_true, beq_iff_eq, beq_iff_eq] at h
      obtain ⟨⟨hop, hxb⟩, hk⟩ := h
      cases eq_of_beq hxb
      cases k with
      | lit tk kk lv =>
        rw [Bool.not_eq_true'] at hk
        exact .inr (.inr ⟨t, op, tk, kk, lv, rfl, hop, hk⟩)
      | _ => cases hk
  | _ => exact .inr (.inl (neg _ h))

/-- two boolean expressions that the test separates never have the same truth value where both are defined -/
theorem obviouslyDifferent_bool (a b : Expr) (h : obviouslyDifferent a b = true) (ρ : Env) (x y : Bool)
    (ha : truth opq ρ a = some x) (hb : truth opq ρ b = some y) : x = !y := by
  rcases obviouslyDifferent_cases h with ⟨t, rfl⟩ | ⟨t, rfl⟩ | ⟨t, op, tk, kk, lv, rfl, hop, -⟩
  · rw [truth_not, hb] at ha
    exact (Option.some.inj ha).symm
  · rw [truth_not, ha] at hb
    cases hb
    exact (Bool.not_not x).symm
  · -- arithmetic results have no truth value
    obtain ⟨vx, vk, -, -, hbin⟩ := (eval_bin_ok opq).1 ((truth_eq_some opq).1 ha)
    rcases hop with rfl | rfl
    · obtain ⟨_, _, -, -, hv⟩ := arith_ok binOp_add hbin
      cases hv
    · obtain ⟨_, _, -, -, hv⟩ := arith_ok binOp_sub hbin
      cases hv

/-! ## literals -/

theorem litVal_some {e : Expr} {y : LitVal} (h : litVal? e = some y) : ∃ t k, e = .lit t k y := by
  cases e with
  | lit t k v =>
    cases h
    exact ⟨t, k, rfl⟩
  | _ => cases h

theorem numLit_some {e : Expr} {v : LitVal} (h : numLit? e = some v) : ∃ t k, e = .lit t k v := by
  cases e with
  | lit t k lv =>
    rw [numLit?] at h
    obtain ⟨-, h⟩ | ⟨-, h⟩ := ite_eq h <;> cases h
    exact ⟨t, k, rfl⟩
  | _ => cases h

theorem eval_lit (ρ : Env) (t : DataType) (k : String) (y : LitVal) : eval opq ρ (.lit t k y) = litValue y := rfl

/-- a literal that evaluates to a finite number is an int or a float literal -/
theorem litValue_num {y : LitVal} {q : Rat} (h : litValue y = .ok (Value.num q)) : y = .int q.num ∧ q.den = 1 ∨ y = .flt q := by
  cases y <;> cases h
  · exact .inl ⟨by simp, by simp⟩
  · exact .inr rfl

theorem toRat_of_num {y : LitVal} {q : Rat} (h : litValue y = .ok (Value.num q)) : y.toRat? = some q := by
  cases y <;> cases h <;> rfl

theorem litVal_toRat {e : Expr} {y : LitVal} {ρ : Env} {q : Rat} (hl : litVal? e = some y) (he : eval opq ρ e = .ok (Value.num q)) :
    y.toRat? = some q := by
  obtain ⟨t, k, rfl⟩ := litVal_some hl
  exact toRat_of_num he


/-! ## constant folding agrees with the exact arithmetic of the semantics -/

theorem mkNumVal_value (b : Bool) (q : Rat) : litValue (mkNumVal b q) = .ok (Value.num q) := by
  unfold mkNumVal
  split
  · rename_i h
    simp only [Bool.and_eq_true, beq_iff_eq] at h
    simp only [litValue, Except.ok.injEq, Value.num, Value.prim.injEq, Prim.num.injEq]
    exact Rat.ext (by simp) (by simp [h.2])
  · rfl

theorem pyArith_value {f : Rat → Rat → Rat} {a b z : LitVal} {x y : Rat} (ha : a.toRat? = some x) (hb : b.toRat? = some y)
    (h : pyArith f a b = .ok z) : litValue z = .ok (Value.num (f x y)) := by
  unfold pyArith at h
  simp only [ha, hb] at h
  cases h
  exact mkNumVal_value _ _

theorem litNumber_eval {z : LitVal} {e : Expr} (h : litNumber z = .ok e) (ρ : Env) : eval opq ρ e = litValue z := by
  rcases ite_eq h with ⟨-, h⟩ | ⟨-, h⟩
  · cases h
  · obtain ⟨s, -, h⟩ := bind_ok h
    cases h
    rfl

theorem pyEq_int {y : LitVal} {q : Rat} (hy : y.toRat? = some q) (n : Int) : pyEq y (.int n) = (q == (n : Rat)) := by
  cases y <;> cases hy <;> rfl

theorem pyEq_num {y : LitVal} {q : Rat} {n : Int} (hy : y.toRat? = some q) (h : pyEq y (.int n) = true) : q = n := by
  rw [pyEq_int hy] at h
  exact eq_of_beq h

theorem isZero_num {y : LitVal} {q : Rat} (hy : y.toRat? = some q) (h : isZero y = true) : q = 0 := pyEq_num hy h

theorem isZero_of_toRat_zero {y : LitVal} (h : y.toRat? = some 0) : isZero y = true := by
  rw [isZero, pyEq_int h]
  rfl

theorem isOne_num {y : LitVal} {q : Rat} (hy : y.toRat? = some q) (h : isOne y = true) : q = 1 := pyEq_num hy h

theorem isMinusOne_num {y : LitVal} {q : Rat} (hy : y.toRat? = some q) (h : isMinusOne y = true) : q = -1 := pyEq_num hy h

/-! ## `_obvious_negatives` on numbers -/

theorem not_ok {x v : Value} (h : unOp Gen.NOT_OPERATOR x = .ok v) : ∃ c, x = Value.bool c ∧ v = Value.bool (!c) := by
  rw [show Gen.NOT_OPERATOR = "not" from rfl, unOp_not] at h
  obtain ⟨c, hc, h⟩ := bind_ok h
  exact ⟨c, asBool_ok.1 hc, (Except.ok.inj h).symm⟩

theorem neg_ok {x v : Value} (h : unOp "-" x = .ok v) : ∃ q, x = Value.num q ∧ v = Value.num (-q) := by
  rw [unOp_neg] at h
  obtain ⟨q, hq, h⟩ := bind_ok h
  exact ⟨q, asNum_ok.1 hq, (Except.ok.inj h).symm⟩

theorem unOp_num_inv {op : String} {x : Value} {q : Rat} (hop : (op == Gen.NOT_OPERATOR || op == "-") = true)
    (h : unOp op x = .ok (Value.num q)) : ∃ qx, x = Value.num qx ∧ q = -qx := by
  rw [Bool.or_eq_true, beq_iff_eq, beq_iff_eq] at hop
  rcases hop with rfl | rfl
  · obtain ⟨c, -, hv⟩ := not_ok h
    cases hv
  · obtain ⟨qx, hx, hv⟩ := neg_ok h
    exact ⟨qx, hx, num_inj _ _ hv⟩

theorem obviousNegatives_cases {a b : Expr} (h : obviousNegatives a b = true) :
    (∃ t op, (op == Gen.NOT_OPERATOR || op == "-") = true ∧ a = .un t op b) ∨
    ∃ t op, (op == Gen.NOT_OPERATOR || op == "-") = true ∧ b = .un t op a := by
  cases a with
  | un t op x =>
    rcases ite_eq h with ⟨hop, h⟩ | ⟨-, h⟩
    · cases eq_of_beq h
      exact .inl ⟨t, op, hop, rfl⟩
    · exact .inr (un_of_match h)
  | _ => exact .inr (un_of_match h)

/-- when two numeric expressions pass the test, their values are opposite -/
theorem obviousNegatives_num {a b : Expr} (h : obviousNegatives a b = true) {ρ : Env} {qa qb : Rat}
    (ha : eval opq ρ a = .ok (Value.num qa)) (hb : eval opq ρ b = .ok (Value.num qb)) : qa = -qb := by
  rcases obviousNegatives_cases h with ⟨t, op, hop, rfl⟩ | ⟨t, op, hop, rfl⟩
  · obtain ⟨x, hx, hu⟩ := (eval_un_ok opq).1 ha
    cases hb.symm.trans hx
    obtain ⟨q, hq, rfl⟩ := unOp_num_inv hop hu
    cases num_inj _ _ hq
    rfl
  · obtain ⟨x, hx, hu⟩ := (eval_un_ok opq).1 hb
    cases ha.symm.trans hx
    obtain ⟨q, hq, rfl⟩ := unOp_num_inv hop hu
    cases num_inj _ _ hq
    rw [Rat.neg_neg]

theorem eval_int_lit {n : Int} {e : Expr} (h : litNumber (.int n) = .ok e) (ρ : Env) : eval opq ρ e = .ok (Value.num n) := by
  rw [litNumber_eval opq h ρ]; rfl

theorem fold_lits {f : Rat → Rat → Rat} {a b r : Expr} {x y z : LitVal} {ρ : Env} {qx qy : Rat} (ha : litVal? a = some x)
    (hb : litVal? b = some y) (hx : eval opq ρ a = .ok (Value.num qx)) (hy : eval opq ρ b = .ok (Value.num qy))
    (hz : pyArith f x y = .ok z) (hr : litNumber z = .ok r) : eval opq ρ r = .ok (Value.num (f qx qy)) := by
  rw [litNumber_eval opq hr ρ]
  exact pyArith_value (litVal_toRat opq ha hx) (litVal_toRat opq hb hy) hz

/-! ## `_simplify_addition` -/

theorem simpAddition_sound (t : DataType) (a b r : Expr) (h : simpAddition (.bin t "+" a b) a b = .ok r) :
    Pres opq r (.bin t "+" a b) := by
  intro ρ v hv
  obtain ⟨x, y, hx, hy, hop⟩ := (eval_bin_ok opq).1 hv
  obtain ⟨qx, qy, rfl, rfl, rfl⟩ := arith_ok binOp_add hop
  cases simpAddition_ok h with
  | rightZero hlb hz hr =>
    rw [hr, isZero_num (litVal_toRat opq hlb hy) hz, Rat.add_zero]
    exact hx
  | leftZero hla _ hz hr =>
    rw [hr, isZero_num (litVal_toRat opq hla hx) hz, Rat.zero_add]
    exact hy
  | fold hla hlb hz hr => exact fold_lits opq hla hlb hx hy hz hr
  | opposite hneg hr =>
    rw [eval_int_lit opq hr ρ, obviousNegatives_num opq hneg hx hy, Rat.neg_add_cancel]
    rfl
  | same hr =>
    rw [hr]
    exact hv

/-! ## constructors, evaluated -/

theorem mkBin_ok_eval {op : String} {a b e : Expr} (h : mkBin op a b = .ok e) {ρ : Env} {x y v : Value}
    (hx : eval opq ρ a = .ok x) (hy : eval opq ρ b = .ok y) (hv : binOp op x y = .ok v) : eval opq ρ e = .ok v := by
  rw [mkBin_eval opq h ρ, hx, hy]
  exact hv

theorem mkUn_ok_eval {op : String} {a e : Expr} (h : mkUn op a = .ok e) {ρ : Env} {x v : Value}
    (hx : eval opq ρ a = .ok x) (hv : unOp op x = .ok v) : eval opq ρ e = .ok v := by
  rw [mkUn_eval opq h ρ, hx]
  exact hv

theorem binOp_add_num (x y : Rat) : binOp "+" (Value.num x) (Value.num y) = .ok (Value.num (x + y)) := by
  rw [binOp_add]; rfl
theorem binOp_sub_num (x y : Rat) : binOp "-" (Value.num x) (Value.num y) = .ok (Value.num (x - y)) := by
  rw [binOp_sub]; rfl
theorem binOp_mul_num (x y : Rat) : binOp "*" (Value.num x) (Value.num y) = .ok (Value.num (x * y)) := by
  rw [binOp_mul]; rfl
theorem unOp_neg_num (x : Rat) : unOp "-" (Value.num x) = .ok (Value.num (-x)) := by
  rw [unOp_neg]; rfl

/-! ## `_simplify_subtraction` -/

theorem simpSubtraction_sound (t : DataType) (a b r : Expr) (h : simpSubtraction (.bin t "-" a b) a b = .ok r) :
    Pres opq r (.bin t "-" a b) := by
  intro ρ v hv
  obtain ⟨x, y, hx, hy, hop⟩ := (eval_bin_ok opq).1 hv
  obtain ⟨qx, qy, rfl, rfl, rfl⟩ := arith_ok binOp_sub hop
  cases simpSubtraction_ok h with
  | rightZero hlb hz hr =>
    rw [hr, isZero_num (litVal_toRat opq hlb hy) hz, Rat.sub_eq_add_neg, Rat.neg_zero, Rat.add_zero]
    exact hx
  | fold hla hlb hz hr => exact fold_lits opq hla hlb hx hy hz hr
  | equal heq hr =>
    cases eq_of_beq heq
    cases num_inj _ _ (Except.ok.inj (hx.symm.trans hy))
    rw [eval_int_lit opq hr ρ, Rat.sub_self]
    rfl
  | minusNeg hb he hr =>
    cases hb
    obtain ⟨xv, hxv, hu⟩ := (eval_un_ok opq).1 hy
    obtain ⟨qxb, rfl, hq⟩ := neg_ok hu
    cases num_inj _ _ hq
    rw [Rat.sub_eq_add_neg, Rat.neg_neg]
    exact simpAddition_sound opq _ _ _ r hr ρ _ (mkBin_ok_eval opq he hx hxv (binOp_add_num qx qxb))
  | same hr =>
    rw [hr]
    exact hv

/-! ## `_simplify_division` -/

theorem rat_inv_one : (1 : Rat)⁻¹ = 1 := by
  rw [← Rat.one_mul (1 : Rat)⁻¹]
  exact Rat.mul_inv_cancel 1 (by decide)

theorem div_ok {x y v : Value} (h : binOp "/" x y = .ok v) :
    ∃ qx qy, x = Value.num qx ∧ y = Value.num qy ∧ qy ≠ 0 ∧ v = Value.num (qx / qy) := by
  rw [binOp_div] at h
  obtain ⟨qx, hx, h⟩ := bind_ok h
  obtain ⟨qy, hy, h⟩ := bind_ok h
  rcases ite_eq h with ⟨-, h⟩ | ⟨hne, h⟩
  · cases h
  · exact ⟨qx, qy, asNum_ok.1 hx, asNum_ok.1 hy, hne, (Except.ok.inj h).symm⟩

theorem simpDivision_sound (t : DataType) (a b r : Expr) (h : simpDivision (.bin t "/" a b) a b = .ok r) :
    Pres opq r (.bin t "/" a b) := by
  intro ρ v hv
  obtain ⟨x, y, hx, hy, hop⟩ := (eval_bin_ok opq).1 hv
  obtain ⟨qx, qy, rfl, rfl, hne, rfl⟩ := div_ok hop
  cases simpDivision_ok h with
  | rightOne hlb _ hone hr =>
    rw [hr, isOne_num (litVal_toRat opq hlb hy) hone, Rat.div_def, rat_inv_one, Rat.mul_one]
    exact hx
  | leftZero hla _ _ hz hr =>
    cases isZero_num (litVal_toRat opq hla hx) hz
    rw [hr, Rat.div_def, Rat.zero_mul]
    exact hx
  | fold hla hlb _ hz hr =>
    rw [litNumber_eval opq hr ρ]
    unfold pyDiv at hz
    rw [litVal_toRat opq hla hx, litVal_toRat opq hlb hy] at hz
    rcases ite_eq hz with ⟨h0, -⟩ | ⟨-, hz⟩
    · exact absurd h0 hne
    · cases hz
      rfl
  | equal heq hr =>
    cases eq_of_beq heq
    cases num_inj _ _ (Except.ok.inj (hx.symm.trans hy))
    rw [eval_int_lit opq hr ρ, Rat.div_def, Rat.mul_inv_cancel _ hne]
    rfl
  | opposite hneg hr =>
    rw [eval_int_lit opq hr ρ, obviousNegatives_num opq hneg hx hy, Rat.div_def, Rat.neg_mul, Rat.mul_inv_cancel _ hne]
    rfl
  | same hr =>
    rw [hr]
    exact hv

/-! ## `_simplify_exponentiation` -/

theorem pow_ok {x y v : Value} (h : binOp "**" x y = .ok v) :
    ∃ qx qy r, x = Value.num qx ∧ y = Value.num qy ∧ isInt qy = true ∧ ratPow qx qy.num = .ok r ∧ v = Value.num r := by
  rw [binOp_pow] at h
  obtain ⟨qx, hx, h⟩ := bind_ok h
  obtain ⟨qy, hy, h⟩ := bind_ok h
  rcases ite_eq h with ⟨hi, h⟩ | ⟨-, h⟩
  · obtain ⟨r, hr, h⟩ := bind_ok h
    exact ⟨qx, qy, r, asNum_ok.1 hx, asNum_ok.1 hy, hi, hr, (Except.ok.inj h).symm⟩
  · cases h

theorem ratPow_ofNat {q r : Rat} {n : Nat} (h : ratPow q (Int.ofNat n) = .ok r) : r = q ^ n := by
  rcases ite_eq h with ⟨-, h⟩ | ⟨-, h⟩
  · cases h
  · exact (Except.ok.inj h).symm

theorem ratPow_negSucc {q r : Rat} {n : Nat} (h : ratPow q (Int.negSucc n) = .ok r) : q ≠ 0 ∧ r = (q ^ (n + 1))⁻¹ := by
  rcases ite_eq h with ⟨-, h⟩ | ⟨hc, h⟩
  · cases h
  · simp only [Bool.or_eq_true, decide_eq_true_eq, not_or] at hc
    exact ⟨hc.1, (Except.ok.inj h).symm⟩

theorem rat_one_pow : ∀ n : Nat, (1 : Rat) ^ n = 1
  | 0 => Rat.pow_zero 1
  | n + 1 => by rw [Rat.pow_succ, rat_one_pow n, Rat.mul_one]

theorem rat_zero_pow : ∀ n : Nat, n ≠ 0 → (0 : Rat) ^ n = 0
  | 0, h => absurd rfl h
  | n + 1, _ => by rw [Rat.pow_succ, Rat.mul_zero]

theorem simpExponentiation_sound (t : DataType) (a b r : Expr) (h : simpExponentiation (.bin t "**" a b) a b = .ok r) :
    Pres opq r (.bin t "**" a b) := by
  intro ρ v hv
  obtain ⟨x, y, hx, hy, hop⟩ := (eval_bin_ok opq).1 hv
  obtain ⟨qx, qy, pw, rfl, rfl, hint, hpow, rfl⟩ := pow_ok hop
  cases simpExponentiation_ok h with
  | rightOne hlb hone hr =>
    cases isOne_num (litVal_toRat opq hlb hy) hone
    rw [hr, ratPow_ofNat (n := 1) hpow, Rat.pow_one]
    exact hx
  | rightZero hlb hzero hr =>
    cases isZero_num (litVal_toRat opq hlb hy) hzero
    rw [eval_int_lit opq hr ρ, ratPow_ofNat (n := 0) hpow, Rat.pow_zero]
    rfl
  | leftUnit hla hlb _ hnz h01 hr =>
    have hxv := litVal_toRat opq hla hx
    rw [hr]
    rw [Bool.or_eq_true] at h01
    cases hn : qy.num with
    | ofNat n =>
      rw [hn] at hpow
      rw [ratPow_ofNat hpow]
      rcases h01 with h1 | h0
      · cases isOne_num hxv h1
        rw [rat_one_pow]
        exact hx
      · cases isZero_num hxv h0
        rw [rat_zero_pow n]
        · exact hx
        · -- a zero exponent was caught by the earlier test
          intro hn0
          have hq : qy = (qy.num : Rat) := by
            rw [isInt, beq_iff_eq] at hint
            exact Rat.ext (by simp) (by simp [hint])
          have hyv := litVal_toRat opq hlb hy
          rw [hq, hn, hn0] at hyv
          exact hnz (isZero_of_toRat_zero hyv)
    | negSucc n =>
      rw [hn] at hpow
      rcases h01 with h1 | h0
      · cases isOne_num hxv h1
        rw [(ratPow_negSucc hpow).2, rat_one_pow, rat_inv_one]
        exact hx
      · cases isZero_num hxv h0
        exact absurd rfl (ratPow_negSucc hpow).1
  | @fold xv yv z hla hlb _ _ _ hz hr =>
    have hyv := litVal_toRat opq hlb hy
    rw [litNumber_eval opq hr ρ]
    unfold pyPow at hz
    rw [litVal_toRat opq hla hx] at hz
    cases yv with
    | int n =>
      cases hyv
      rw [Rat.num_intCast] at hpow
      rcases ite_eq hz with ⟨hge, hz⟩ | ⟨hlt, hz⟩
      · rcases ite_eq hz with ⟨-, hz⟩ | ⟨-, hz⟩
        · cases hz
        · cases hz
          obtain ⟨m, rfl⟩ : ∃ m : Nat, n = Int.ofNat m := ⟨n.toNat, (Int.toNat_of_nonneg hge).symm⟩
          rw [mkNumVal_value, ratPow_ofNat hpow]
          rfl
      · rcases ite_eq hz with ⟨-, hz⟩ | ⟨-, hz⟩
        · cases hz
        rcases ite_eq hz with ⟨-, hz⟩ | ⟨-, hz⟩
        · cases hz
        · cases hz
          obtain ⟨m, rfl⟩ : ∃ m : Nat, n = Int.negSucc m := ⟨(-n - 1).toNat, by omega⟩
          rw [(ratPow_negSucc hpow).2]
          rfl
    | _ => cases hz
  | same hr =>
    rw [hr]
    exact hv

/-! ## comparisons of literals -/

theorem prim_num_beq (a b : Rat) : (Prim.num a == Prim.num b) = (a == b) := by
  by_cases h : a = b
  · subst h; rw [beq_self_eq_true, beq_self_eq_true]
  · rw [beq_eq_false_iff_ne.mpr h, beq_eq_false_iff_ne.mpr (fun hh => h (Prim.num.inj hh))]

/-- the value of a literal, as a primitive (`nan` has no value: a dummy) -/
def litPrim : LitVal → Prim
  | .bool b => .bool b
  | .int n => .num n
  | .flt q => .num q
  | .inf => .pinf
  | .ninf => .ninf
  | .nan => .num 0
  | .str s => .str s

theorem litValue_litPrim {v : LitVal} {x : Value} (h : litValue v = .ok x) : x = .prim (litPrim v) ∧ v ≠ .nan := by
  cases v <;> cases h <;> exact ⟨rfl, nofun⟩

theorem str_beq (x y : String) : (Prim.str x == Prim.str y) = (x == y) := by
  by_cases h : x = y
  · subst h; rw [beq_self_eq_true, beq_self_eq_true]
  · rw [beq_eq_false_iff_ne.mpr h, beq_eq_false_iff_ne.mpr (fun hh => h (Prim.str.inj hh))]

/-- on values of one kind Python's `==` is the equality of the value domain -/
theorem pyEq_iff {a b : LitVal} (ha : a ≠ .nan) (hb : b ≠ .nan) (hk : (litPrim a).kind = (litPrim b).kind) :
    pyEq a b = (litPrim a == litPrim b) := by
  cases a with
  | nan => exact absurd rfl ha
  | bool x =>
    cases b with
    | bool y => cases x <;> cases y <;> decide
    | nan => exact absurd rfl hb
    | _ => cases hk
  | str x =>
    cases b with
    | str y => exact (str_beq x y).symm
    | nan => exact absurd rfl hb
    | _ => cases hk
  | int _ | flt _ | inf | ninf =>
    cases b with
    | nan => exact absurd rfl hb
    | bool _ | str _ => cases hk
    -- two finite numbers compare as rationals; an infinity differs from both by computation
    | int _ | flt _ => first | exact (prim_num_beq _ _).symm | rfl
    | inf | ninf => rfl

theorem prim_eq_ok {a b : Prim} {r : Bool} (h : Prim.eq a b = .ok r) : a.kind = b.kind ∧ r = (a == b) := by
  cases a with
  | bool x =>
    cases b with
    | bool y =>
      cases h
      exact ⟨rfl, by cases x <;> cases y <;> rfl⟩
    | _ => cases h
  | str x =>
    cases b with
    | str y =>
      cases h
      exact ⟨rfl, (str_beq x y).symm⟩
    | _ => cases h
  | num _ | pinf | ninf =>
    cases b with
    | bool _ | str _ => cases h
    | num _ | pinf | ninf =>
      cases h
      exact ⟨rfl, rfl⟩

theorem pyEq_sound {x y : LitVal} {r : Bool} (hx : x ≠ .nan) (hy : y ≠ .nan) (h : Prim.eq (litPrim x) (litPrim y) = .ok r) :
    pyEq x y = r := by
  obtain ⟨hk, rfl⟩ := prim_eq_ok h
  exact pyEq_iff hx hy hk

theorem pyLt_sound {x y : LitVal} {r : Bool} (hx : x ≠ .nan) (hy : y ≠ .nan) (h : Prim.lt (litPrim x) (litPrim y) = .ok r) :
    pyLt x y = .ok r := by
  -- the order is defined on numbers and the infinities only, and there the two definitions unfold to the same comparison
  cases x with
  | nan => exact absurd rfl hx
  | bool _ | str _ => cases y <;> cases h
  | int _ | flt _ | inf | ninf =>
    cases y with
    | nan => exact absurd rfl hy
    | bool _ | str _ => cases h
    | int _ | flt _ | inf | ninf =>
      cases h
      rfl

theorem not_nan_of_value {x : LitVal} {v : Value} (h : litValue x = .ok v) : (x matches .nan) = false := by
  cases x <;> first | rfl | cases h

theorem matches_nan_false {x : LitVal} : x ≠ .nan → (x matches .nan) = false := by
  intro h
  cases x with
  | nan => exact absurd rfl h
  | _ => rfl

theorem asPrim_ok {v : Value} {p : Prim} : asPrim v = .ok p ↔ v = .prim p := by
  constructor
  · intro h
    cases v <;> cases h
    rfl
  · rintro rfl
    rfl

theorem cmp_ok {F : Prim → Prim → EM Bool} {G : Bool → Bool} {op : String}
    (hop : ∀ a b, binOp op a b = (do let x ← asPrim a; let y ← asPrim b; let r ← F x y; pure (Value.bool (G r))))
    {x y v : Value} (h : binOp op x y = .ok v) :
    ∃ px py c, x = .prim px ∧ y = .prim py ∧ F px py = .ok c ∧ v = Value.bool (G c) := by
  rw [hop] at h
  obtain ⟨px, hx, h⟩ := bind_ok h
  obtain ⟨py, hy, h⟩ := bind_ok h
  obtain ⟨c, hc, h⟩ := bind_ok h
  exact ⟨px, py, c, asPrim_ok.1 hx, asPrim_ok.1 hy, hc, (Except.ok.inj h).symm⟩

theorem eval_litBool (ρ : Env) (b : Bool) : eval opq ρ (litBool b) = .ok (Value.bool b) := rfl

/-- the literal-folding branch of `_simplify_comparison` -/
def foldCmp (op : String) (x y : LitVal) : M Expr :=
  if op == "=" then .ok (litBool (pyEq x y))
  else if op == "<" then do let r ← pyLt x y; pure (litBool r)
  else if op == "<=" then do let r ← pyLt y x; pure (litBool (!r && !(x matches .nan) && !(y matches .nan)))
  else if op == ">" then do let r ← pyLt y x; pure (litBool r)
  else if op == ">=" then do let r ← pyLt x y; pure (litBool (!r && !(x matches .nan) && !(y matches .nan)))
  else .ok (litBool (!pyEq x y))

/-- folding a comparison of two literals gives the value the comparison has -/
theorem foldComparison_sound {op : String} (hop : op = "=" ∨ op = "!=" ∨ op = "<" ∨ op = "<=" ∨ op = ">" ∨ op = ">=")
    {x y : LitVal} {v : Value} (hx : x ≠ .nan) (hy : y ≠ .nan)
    (h : binOp op (.prim (litPrim x)) (.prim (litPrim y)) = .ok v) {r : Expr}
    (hr : foldCmp op x y = .ok r) (ρ : Env) : eval opq ρ r = .ok v := by
  have lt : ∀ {x y : LitVal} {c : Bool} {F : Bool → Bool}, x ≠ .nan → y ≠ .nan →
      Prim.lt (litPrim x) (litPrim y) = .ok c → (do let r ← pyLt x y; pure (litBool (F r)) : M Expr) = .ok r → r = litBool (F c) := by
    intro x y c F hx hy hc hr
    rw [pyLt_sound hx hy hc] at hr
    exact (Except.ok.inj hr).symm
  have inv : ∀ {F : Prim → Prim → EM Bool} {G : Bool → Bool},
      (∀ a b, binOp op a b = (do let x ← asPrim a; let y ← asPrim b; let r ← F x y; pure (Value.bool (G r)))) →
      ∃ c, F (litPrim x) (litPrim y) = .ok c ∧ v = Value.bool (G c) := fun hF => by
    obtain ⟨_, _, c, hpx, hpy, he, hv⟩ := cmp_ok hF h
    cases hpx
    cases hpy
    exact ⟨c, he, hv⟩
  have hnx := matches_nan_false hx
  have hny := matches_nan_false hy
  rcases hop with rfl | rfl | rfl | rfl | rfl | rfl
  · obtain ⟨c, he, rfl⟩ := inv binOp_eq
    cases hr
    rw [pyEq_sound hx hy he]
    rfl
  · obtain ⟨c, he, rfl⟩ := inv binOp_ne
    cases hr
    rw [pyEq_sound hx hy he]
    rfl
  · obtain ⟨c, he, rfl⟩ := inv binOp_lt
    rw [lt (F := id) hx hy he hr]
    rfl
  · obtain ⟨c, he, rfl⟩ := inv binOp_le
    rw [lt hy hx he hr, hnx, hny, Bool.not_false, Bool.and_true, Bool.and_true]
    rfl
  · obtain ⟨c, he, rfl⟩ := inv binOp_gt
    rw [lt (F := id) hy hx he hr]
    rfl
  · obtain ⟨c, he, rfl⟩ := inv binOp_ge
    rw [lt hx hy he hr, hnx, hny, Bool.not_false, Bool.and_true, Bool.and_true]
    rfl

/-! ## the `obviously different` test, value level -/

theorem not_values_differ {x : Value} {pa pb : Prim} {r : Bool} (hx : x = .prim pb) (hu : unOp Gen.NOT_OPERATOR x = .ok (.prim pa))
    (he : Prim.eq pa pb = .ok r ∨ Prim.eq pb pa = .ok r) : r = false := by
  subst hx
  obtain ⟨c, hc, hv⟩ := not_ok hu
  cases hc
  cases hv
  rcases he with he | he <;> cases he <;> cases c <;> rfl

theorem obviouslyDifferent_ne {a b : Expr} (h : obviouslyDifferent a b = true) {ρ : Env} {pa pb : Prim} {r : Bool}
    (ha : eval opq ρ a = .ok (.prim pa)) (hb : eval opq ρ b = .ok (.prim pb)) (he : Prim.eq pa pb = .ok r) : r = false := by
  rcases obviouslyDifferent_cases h with ⟨t, rfl⟩ | ⟨t, rfl⟩ | ⟨t, op, tk, kk, lv, rfl, hop, hk⟩
  · obtain ⟨xv, hxv, hu⟩ := (eval_un_ok opq).1 ha
    cases hb.symm.trans hxv
    exact not_values_differ rfl hu (Or.inl he)
  · obtain ⟨xv, hxv, hu⟩ := (eval_un_ok opq).1 hb
    cases ha.symm.trans hxv
    exact not_values_differ rfl hu (Or.inr he)
  · obtain ⟨xv, kv, hxv, hkv, hbin⟩ := (eval_bin_ok opq).1 ha
    cases hb.symm.trans hxv
    have key : ∀ (f : Rat → Rat → Rat), (∀ q k : Rat, f q k = q → k = 0) →
        (∀ a b, binOp op a b = (do let x ← asNum a; let y ← asNum b; pure (Value.num (f x y)))) → r = false := by
      intro f hf hopf
      obtain ⟨qx, qk, hqx, rfl, hv⟩ := arith_ok hopf hbin
      cases hqx
      cases hv
      have hne : qk ≠ 0 := fun hz => by
        rw [hz] at hkv
        rw [isZero_of_toRat_zero (toRat_of_num hkv)] at hk
        cases hk
      cases he
      rw [prim_num_beq, beq_eq_false_iff_ne]
      exact fun hh => hne (hf _ _ hh)
    rcases hop with rfl | rfl
    · exact key (· + ·) (fun q k h => Rat.add_left_cancel q (h.trans (Rat.add_zero q).symm)) binOp_add
    · refine key (· - ·) (fun q k h => ?_) binOp_sub
      have hk : -k = 0 := Rat.add_left_cancel q ((Rat.sub_eq_add_neg q k ▸ h).trans (Rat.add_zero q).symm)
      rw [← Rat.neg_neg k, hk, Rat.neg_zero]

/-! ## `_simplify_comparison` -/

theorem simpComparison_sound (t : DataType) (op : String) (hop : op = "=" ∨ op = "!=" ∨ op = "<" ∨ op = "<=" ∨ op = ">" ∨ op = ">=")
    (a b r : Expr) (h : simpComparison (.bin t op a b) op a b = .ok r) : Pres opq r (.bin t op a b) := by
  intro ρ v hv
  obtain ⟨x, y, hx, hy, hbin⟩ := (eval_bin_ok opq).1 hv
  have ne : ∀ {G : Bool → Bool},
      (∀ a b, binOp op a b = (do let x ← asPrim a; let y ← asPrim b; let r ← Prim.eq x y; pure (Value.bool (G r)))) →
      obviouslyDifferent a b = true → v = Value.bool (G false) := fun hG hd => by
    obtain ⟨_, _, c, rfl, rfl, hq, rfl⟩ := cmp_ok hG hbin
    rw [obviouslyDifferent_ne opq hd hx hy hq]
  cases simpComparison_ok h with
  | lits hla hlb _ =>
    obtain ⟨ta, ka, rfl⟩ := litVal_some hla
    obtain ⟨tb, kb, rfl⟩ := litVal_some hlb
    obtain ⟨rfl, hnx⟩ := litValue_litPrim hx
    obtain ⟨rfl, hny⟩ := litValue_litPrim hy
    -- on two literals `simpComparison` unfolds to `foldCmp`
    exact foldComparison_sound opq hop hnx hny hbin h ρ
  | differentEq hd ho hr =>
    cases ho
    rw [hr, ne binOp_eq hd]
    rfl
  | differentNe hd ho hr =>
    cases ho
    rw [hr, ne binOp_ne hd]
    rfl
  | same hr =>
    rw [hr]
    exact hv

end
end Hpl
