import Hpl.Model.Query
/-!
# C15 — reference queries report exactly the references that occur

Model: `Hpl/Model/Query.lean` (`children`, `iterate`, `externalRefs`, `containsRef`, `containsSelf`, `containsDef`,
event-level delegations, `aliases`, `someFieldRefs`), written per class as the Python overrides are.
Spec: `preorder`, `freeVars` (plain structural recursions, in the same file), and predicates over the pre-order listing.
-/
namespace Hpl

/-! ## `children()` / `iterate()` -/

theorem ExprList.preorder_eq : ∀ es : ExprList, es.preorder = es.toList.flatMap Expr.preorder
  | .nil => by simp [ExprList.preorder, ExprList.toList]
  | .cons e es => by simp [ExprList.preorder, ExprList.toList, ExprList.preorder_eq es]

/-- pre-order = the node followed by the pre-orders of its `children()` (ties the spec to the children protocol) -/
theorem Expr.preorder_children (e : Expr) : e.preorder = e :: e.children.flatMap Expr.preorder := by
  cases e <;> simp [Expr.preorder, Expr.children, ExprList.preorder_eq]

def sizes (l : List Expr) : Nat := (l.map Expr.size).sum

theorem ExprList.size_eq : ∀ es : ExprList, es.size = sizes es.toList
  | .nil => by simp [ExprList.size, ExprList.toList, sizes]
  | .cons e es => by simp [ExprList.size, ExprList.toList, sizes, ExprList.size_eq es]

theorem size_children (e : Expr) : e.size = 1 + sizes e.children := by
  cases e <;> simp [Expr.size, Expr.children, sizes, ExprList.size_eq] <;> omega

theorem worklist_preorder {α : Type} (children : α → List α) (size : α → Nat) (pre : α → List α)
    (loop : Nat → List α → List α → List α) (hnil : ∀ fuel acc, loop (fuel + 1) [] acc = acc.reverse)
    (hcons : ∀ fuel x st acc, loop (fuel + 1) (x :: st) acc = loop fuel (children x ++ st) (x :: acc))
    (hsize : ∀ x, size x = 1 + ((children x).map size).sum) (hpre : ∀ x, pre x = x :: (children x).flatMap pre) :
    ∀ (fuel : Nat) (stack acc : List α), (stack.map size).sum < fuel →
      loop fuel stack acc = acc.reverse ++ stack.flatMap pre
  | 0, _, _, h => absurd h (Nat.not_lt_zero _)
  | fuel+1, [], acc, _ => by rw [hnil, List.flatMap_nil, List.append_nil]
  | fuel+1, x :: st, acc, h => by
      have hs : ((children x ++ st).map size).sum < fuel := by
        rw [List.map_cons, List.sum_cons, hsize x] at h
        rw [List.map_append, List.sum_append]
        omega
      rw [hcons, worklist_preorder children size pre loop hnil hcons hsize hpre fuel _ _ hs, List.flatMap_cons, hpre x,
        List.flatMap_append, List.reverse_cons, List.append_assoc]
      rfl

/-- **C15**: `iterate()` visits every node exactly once, parents before children, left to right -/
theorem iterate_eq_preorder (e : Expr) : e.iterate = e.preorder := by
  rw [Expr.iterate, worklist_preorder Expr.children Expr.size Expr.preorder iterLoop (fun _ _ => rfl) (fun _ _ _ _ => rfl)
    size_children Expr.preorder_children]
  · simp
  · simp

theorem size_le_sizes : ∀ (l : List Expr) (c : Expr), c ∈ l → c.size ≤ sizes l := by
  intro l c hc
  induction l with
  | nil => cases hc
  | cons x xs ih =>
    simp only [sizes, List.map_cons, List.sum_cons]
    rcases List.mem_cons.1 hc with rfl | h
    · omega
    · have := ih h; simp only [sizes] at this; omega

theorem Expr.children_induct {P : Expr → Prop} (h : ∀ e, (∀ c ∈ e.children, P c) → P e) (e : Expr) : P e := by
  have key : ∀ n (e : Expr), e.size ≤ n → P e := by
    intro n
    induction n with
    | zero =>
      intro e hn
      have := Expr.size_pos e
      omega
    | succ n ih =>
      intro e hn
      refine h e fun c hc => ih c ?_
      have := size_le_sizes _ c hc
      have := size_children e
      omega
  exact key e.size e (Nat.le_refl _)

theorem preorder_length : ∀ e : Expr, e.preorder.length = e.size := by
  intro e
  induction e using Expr.children_induct with
  | h e ih =>
    rw [Expr.preorder_children, size_children, List.length_cons, List.length_flatMap, Nat.add_comm, sizes,
      List.map_congr_left ih]

/-! ## quantifier invariant established by the constructor (`mkQuant`): the variable is used below it -/
mutual
def Expr.quantOK : Expr → Prop
  | .lit .. | .this .. | .var .. => True
  | .set _ vs => vs.quantOK
  | .range _ lo hi _ _ => lo.quantOK ∧ hi.quantOK
  | .quant _ _ x d b => x ∈ d.freeVars ++ b.freeVars ∧ d.quantOK ∧ b.quantOK
  | .un _ _ a => a.quantOK
  | .bin _ _ a b => a.quantOK ∧ b.quantOK
  | .call _ _ as => as.quantOK
  | .field _ m _ => m.quantOK
  | .index _ a i => a.quantOK ∧ i.quantOK
def ExprList.quantOK : ExprList → Prop
  | .nil => True
  | .cons e es => e.quantOK ∧ es.quantOK
end

/-! ## reference queries -/
mutual
/-- **C15**: `external_references()` returns exactly the free `@` variables (and never hits the `set.remove` KeyError)
    on every tree satisfying the constructor invariant -/
theorem Expr.externalRefs_eq : ∀ e : Expr, e.quantOK → e.externalRefs = .ok e.freeVars
  | .lit .., _ | .this .., _ | .var .., _ => by simp [Expr.externalRefs, Expr.freeVars]
  | .set _ as, h | .call _ _ as, h => by simpa [Expr.externalRefs, Expr.freeVars] using ExprList.externalRefs_eq as h
  | .un _ _ a, h | .field _ a _, h => by simpa [Expr.externalRefs, Expr.freeVars] using Expr.externalRefs_eq a h
  | .range _ a b _ _, h | .bin _ _ a b, h | .index _ a b, h => by
      simp [Expr.externalRefs, Expr.freeVars, Expr.externalRefs_eq a h.1, Expr.externalRefs_eq b h.2, bind, Except.bind, pure, Except.pure]
  | .quant _ _ x d b, h => by
      simp [Expr.externalRefs, Expr.freeVars, Expr.externalRefs_eq d h.2.1, Expr.externalRefs_eq b h.2.2, bind, Except.bind, pure, Except.pure]
      intro hx
      exact (List.mem_append.1 h.1).resolve_left hx
theorem ExprList.externalRefs_eq : ∀ es : ExprList, es.quantOK → es.externalRefs = .ok es.freeVars
  | .nil, _ => by simp [ExprList.externalRefs, ExprList.freeVars]
  | .cons e es, h => by
      simp [ExprList.externalRefs, ExprList.freeVars, Expr.externalRefs_eq e h.1, ExprList.externalRefs_eq es h.2, bind, Except.bind, pure, Except.pure]
end

theorem any_congr_mem {l : List Expr} {g h : Expr → Bool} (H : ∀ c ∈ l, g c = h c) : l.any g = l.any h := by
  induction l with
  | nil => rfl
  | cons x xs ih => rw [List.any_cons, List.any_cons, H x List.mem_cons_self, ih fun c hc => H c (List.mem_cons_of_mem _ hc)]

/-- the shape of `contains_reference`, `contains_self_reference` and `contains_definition`: answer for the node or ask the children -/
theorem any_preorder {f g : Expr → Bool} (hg : ∀ e, g e = (f e || e.children.any g)) (e : Expr) : g e = e.preorder.any f := by
  induction e using Expr.children_induct with
  | h e ih => rw [hg, Expr.preorder_children, List.any_cons, List.any_flatMap, any_congr_mem ih]

theorem ExprList.containsRef_toList (a : String) : ∀ es : ExprList, es.containsRef a = es.toList.any (·.containsRef a)
  | .nil => rfl
  | .cons e es => by rw [ExprList.containsRef, ExprList.toList, List.any_cons, ExprList.containsRef_toList a es]

/-- **C15**: `contains_reference(a)` iff some node of the tree is the variable `@a` -/
theorem Expr.containsRef_iff (a : String) : ∀ e : Expr, e.containsRef a = e.preorder.any (isVarNamed a) :=
  any_preorder fun e => by cases e <;> simp [Expr.containsRef, Expr.children, isVarNamed, ExprList.containsRef_toList]

theorem ExprList.containsRef_iff (a : String) : ∀ es : ExprList, es.containsRef a = es.preorder.any (isVarNamed a) := fun es => by
  rw [ExprList.containsRef_toList, ExprList.preorder_eq, List.any_flatMap]
  exact any_congr_mem fun c _ => Expr.containsRef_iff a c

theorem ExprList.containsSelf_toList : ∀ es : ExprList, es.containsSelf = es.toList.any (·.containsSelf)
  | .nil => rfl
  | .cons e es => by rw [ExprList.containsSelf, ExprList.toList, List.any_cons, ExprList.containsSelf_toList es]

/-- **C15**: `contains_self_reference()` iff the current message is referenced somewhere -/
theorem Expr.containsSelf_iff : ∀ e : Expr, e.containsSelf = e.preorder.any isThis :=
  any_preorder fun e => by cases e <;> simp [Expr.containsSelf, Expr.children, isThis, ExprList.containsSelf_toList]

theorem ExprList.containsSelf_iff : ∀ es : ExprList, es.containsSelf = es.preorder.any isThis := fun es => by
  rw [ExprList.containsSelf_toList, ExprList.preorder_eq, List.any_flatMap]
  exact any_congr_mem fun c _ => Expr.containsSelf_iff c

theorem ExprList.containsDef_toList (a : String) : ∀ es : ExprList, es.containsDef a = es.toList.any (·.containsDef a)
  | .nil => rfl
  | .cons e es => by rw [ExprList.containsDef, ExprList.toList, List.any_cons, ExprList.containsDef_toList a es]

/-- **C15**: `contains_definition(a)` iff some quantifier of the tree binds `a` -/
theorem Expr.containsDef_iff (a : String) : ∀ e : Expr, e.containsDef a = e.preorder.any (bindsName a) :=
  any_preorder fun e => by cases e <;> simp [Expr.containsDef, Expr.children, bindsName, ExprList.containsDef_toList, Bool.or_assoc]

theorem ExprList.containsDef_iff (a : String) : ∀ es : ExprList, es.containsDef a = es.preorder.any (bindsName a) := fun es => by
  rw [ExprList.containsDef_toList, ExprList.preorder_eq, List.any_flatMap]
  exact any_congr_mem fun c _ => Expr.containsDef_iff a c

/-! ## predicates and events -/

def Pred.quantOK : Pred → Prop
  | .expr e => e.quantOK
  | _ => True

def Event.quantOK : Event → Prop
  | .simple _ _ p => p.quantOK
  | .disj a b => a.quantOK ∧ b.quantOK

theorem Pred.externalRefs_eq (p : Pred) (h : p.quantOK) : p.externalRefs = .ok p.freeVars := by
  cases p with
  | expr e => exact Expr.externalRefs_eq e h
  | vtrue | vfalse => rfl

/-- **C15**: an event's `external_references()` = free variables of its alternatives, each without its own alias
    (stated for non-empty aliases, which is all the grammar can produce: `CNAME`) -/
theorem Event.externalRefs_eq : ∀ e : Event, e.quantOK → (∀ a ∈ e.aliases, a ≠ "") → e.externalRefs = .ok e.freeRefs
  | .simple n a p, h, ha => by
      cases a with
      | none => simp [Event.externalRefs, Event.freeRefs, Pred.externalRefs_eq p h, bind, Except.bind, pure, Except.pure]
      | some a =>
        have : a ≠ "" := ha a (by simp [Event.aliases])
        simp [Event.externalRefs, Event.freeRefs, Pred.externalRefs_eq p h, this, bind, Except.bind, pure, Except.pure]
  | .disj a b, h, ha => by
      have ha1 : ∀ x ∈ a.aliases, x ≠ "" := fun x hx => ha x (by simp [Event.aliases, hx])
      have ha2 : ∀ x ∈ b.aliases, x ≠ "" := fun x hx => ha x (by simp [Event.aliases, hx])
      simp [Event.externalRefs, Event.freeRefs, Event.externalRefs_eq a h.1 ha1, Event.externalRefs_eq b h.2 ha2, bind, Except.bind, pure, Except.pure]

/-- **C15**: an event never lists its own alias among its external references -/
theorem Event.alias_not_external (n a : String) (p : Pred) : a ∉ (Event.simple n (some a) p).freeRefs := by
  simp [Event.freeRefs]

/-- **C15**: `aliases()` lists the aliases of the alternatives in source order -/
theorem Event.aliases_eq (e : Event) :
    e.aliases = e.simpleEvents.flatMap (fun s => match s with | .simple _ (some a) _ => [a] | _ => []) := by
  induction e with
  | simple n a p => cases a <;> simp [Event.aliases, Event.simpleEvents]
  | disj a b iha ihb => simp [Event.aliases, Event.simpleEvents, iha, ihb, List.flatMap_append]

/-- **C15**: the own-field check passes iff the first occurrence of some reference (in pre-order) is a field of the
    current message -/
theorem someFieldRefs_iff (e : Expr) :
    e.someFieldRefs = true ↔ ∃ k ∈ e.refKeys, ∃ r rest, e.refGroup k = r :: rest ∧ isOwnField r = true := by
  unfold Expr.someFieldRefs
  simp only [List.any_eq_true]
  constructor
  · rintro ⟨k, hk, h⟩
    refine ⟨k, hk, ?_⟩
    split at h
    · rename_i r rest heq; exact ⟨r, rest, heq, h⟩
    · cases h
  · rintro ⟨k, hk, r, rest, heq, h⟩
    exact ⟨k, hk, by rw [heq]; exact h⟩

theorem mem_preorder_trans {e x y : Expr} (hx : x ∈ e.preorder) (hy : y ∈ x.preorder) : y ∈ e.preorder := by
  induction e using Expr.children_induct with
  | h e ih =>
    rw [Expr.preorder_children] at hx ⊢
    rcases List.mem_cons.1 hx with h | hx
    · subst h
      rwa [← Expr.preorder_children]
    · obtain ⟨c, hc, hxc⟩ := List.mem_flatMap.1 hx
      exact List.mem_cons_of_mem _ (List.mem_flatMap.2 ⟨c, hc, ih c hc hxc⟩)

/-- an own-field access references the current message, so a passing check implies a self reference -/
theorem someFieldRefs_containsSelf (e : Expr) (h : e.someFieldRefs = true) : e.containsSelf = true := by
  obtain ⟨k, _, r, rest, heq, hr⟩ := (someFieldRefs_iff e).1 h
  have hmem : r ∈ e.preorder := by
    have : r ∈ e.refGroup k := by rw [heq]; simp
    unfold Expr.refGroup at this
    exact (List.mem_filter.1 (List.mem_filter.1 this).1).1
  rw [Expr.containsSelf_iff]
  cases r with
  | field t m n =>
    cases m with
    | this t' =>
      have : Expr.this t' ∈ e.preorder := mem_preorder_trans hmem (by simp [Expr.preorder])
      exact List.any_eq_true.2 ⟨_, this, rfl⟩
    | _ => simp [isOwnField] at hr
  | _ => simp [isOwnField] at hr

/-! ## non-vacuity: `forall i in @A.xs: (@i > @B.y[@C.z])` -/
def sampleC15 : Expr :=
  .quant Gen.BOOL .all "i" (.field Gen.ARRAY (.var Gen.MESSAGE "A") "xs")
    (.bin Gen.BOOL ">" (.var Gen.NUMBER "i") (.index Gen.NUMBER (.field Gen.ARRAY (.var Gen.MESSAGE "B") "y") (.field Gen.NUMBER (.var Gen.MESSAGE "C") "z")))
example : sampleC15.quantOK := by simp [sampleC15, Expr.quantOK, Expr.freeVars]
example : sampleC15.externalRefs = .ok ["A", "B", "C"] := by rfl
example : sampleC15.containsRef "i" = true ∧ sampleC15.containsDef "i" = true ∧ sampleC15.containsSelf = false := by decide
example : sampleC15.iterate.length = 10 := by decide

end Hpl
