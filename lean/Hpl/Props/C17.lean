import Hpl.Spec.Schema
import Hpl.Lemmas.Except
/-!
# C17 — schema checking of references is exact

`checkRefs` (model of `HplExpression.type_check_references` + `HplDataAccess.type_check_references`) succeeds iff every
accessor node of the tree — wherever it stands — resolves in the schema of its root, its inferred type set meets the
declared type, and literal indices into fixed-length arrays are in bounds (`RefsOK`).
-/
namespace Hpl

theorem nextField_eq (t : TyTok) (n : String) :
    nextField t n = match tokFieldOf t n with | some t' => .ok t' | none => .error .type := by
  cases t with
  | msg _ fs cs =>
    rw [nextField, tokFieldOf]
    cases fs.find n with
    | some a => rfl
    | none => cases cs.find n <;> rfl
  | prim _ _ | arr _ _ _ => rfl

theorem nextField_ok_iff (t t' : TyTok) (n : String) : nextField t n = .ok t' ↔ tokFieldOf t n = some t' := by
  rw [nextField_eq]
  cases tokFieldOf t n <;> simp

/-- bounds condition of one index step -/
def StepInBounds (t : TyTok) (i : Expr) : Prop :=
  match t, i with
  | .arr _ _ len, .lit _ _ v => containsIndex len v = .ok true
  | _, _ => True

theorem nextIndex_ok_iff (t t' : TyTok) (i : Expr) : nextIndex t i = .ok t' ↔ tokElemOf t = some t' ∧ StepInBounds t i := by
  unfold nextIndex tokElemOf StepInBounds
  cases t with
  | arr n sub len =>
    cases i with
    | lit ty tok v =>
      simp only
      cases hc : containsIndex len v with
      | error x => simp [bind, Except.bind]
      | ok b => cases b <;> simp [bind, Except.bind] <;> exact eq_comm
    | _ => simp <;> exact eq_comm
  | prim _ _ | msg _ _ _ => simp

theorem compatTy_ok_iff (ty : DataType) (t : TyTok) : compatTy ty t = .ok () ↔ ty &&& t.ty ≠ 0 := by
  unfold compatTy; split <;> simp_all

theorem inBounds_index (this : TyTok) (vars : VarTypes) (ty : DataType) (a i : Expr) (t : TyTok)
    (h : denote this vars a = some t) : InBounds this vars (.index ty a i) ↔ StepInBounds t i := by
  -- both sides unfold by definition once the shapes of `i` and `t` are known
  cases i with
  | lit ty' tok v =>
    cases t with
    | arr n sub len => exact ⟨fun H => H _ _ _ h, fun H _ _ _ h' => by cases h.symm.trans h'; exact H⟩
    | prim _ _ | msg _ _ _ => exact ⟨fun _ => trivial, fun _ _ _ _ h' => by cases h.symm.trans h'⟩
  | _ => cases t <;> exact Iff.rfl

variable (this : TyTok) (vars : VarTypes)

theorem resolveAcc_field (ty : DataType) (m : Expr) (name : String) (t : TyTok) :
    resolveAcc this vars (.field ty m name) = .ok t ↔
      ∃ t0, resolveAcc this vars m = .ok t0 ∧ tokFieldOf t0 name = some t ∧ ty &&& t.ty ≠ 0 := by
  simp only [resolveAcc, bind_ok_iff, exists_unit, nextField_ok_iff, compatTy_ok_iff, pure_eq_ok, Except.ok.injEq,
    exists_eq_right_right]

theorem resolveAcc_index (ty : DataType) (a i : Expr) (t : TyTok) :
    resolveAcc this vars (.index ty a i) = .ok t ↔
      ∃ t0, resolveAcc this vars a = .ok t0 ∧ (tokElemOf t0 = some t ∧ StepInBounds t0 i) ∧ ty &&& t.ty ≠ 0 ∧
        checkRefs this vars i = .ok () := by
  simp only [resolveAcc, bind_ok_iff, exists_unit, nextIndex_ok_iff, compatTy_ok_iff, pure_eq_ok, Except.ok.injEq,
    ← and_assoc, exists_eq_right]

theorem refsOK_field (ty : DataType) (m : Expr) (name : String) :
    RefsOK this vars (.field ty m name) ↔ RefOK this vars (.field ty m name) ∧ RefsOK this vars m :=
  List.forall_mem_cons.trans (and_congr_left' ⟨fun h => h rfl, fun h _ => h⟩)

theorem refsOK_index (ty : DataType) (a i : Expr) :
    RefsOK this vars (.index ty a i) ↔ RefOK this vars (.index ty a i) ∧ RefsOK this vars a ∧ RefsOK this vars i :=
  List.forall_mem_cons.trans (and_congr ⟨fun h => h rfl, fun h _ => h⟩ List.forall_mem_append)

theorem refsOK_nonacc {e : Expr} {l : List Expr} (he : isAccessor e = false) (hp : e.preorder = e :: l) :
    RefsOK this vars e ↔ ∀ a ∈ l, isAccessor a = true → RefOK this vars a := by
  rw [RefsOK, hp, List.forall_mem_cons, he]
  exact and_iff_right nofun

theorem refsOK_leaf {e : Expr} (he : isAccessor e = false) (hp : e.preorder = [e]) : RefsOK this vars e :=
  (refsOK_nonacc this vars he hp).2 fun _ h => nomatch h

theorem resolveAcc_base (hb : BaseMsgs this vars) (e : Expr) (he : isAccessor e = false) (t : TyTok) :
    resolveAcc this vars e = .ok t ↔ denote this vars e = some t ∧ RefsOK this vars e := by
  cases e with
  | this _ =>
    rw [resolveAcc, if_pos hb.1, denote, and_iff_left (refsOK_leaf this vars rfl rfl), Except.ok.injEq,
      Option.some.injEq]
  | var _ x =>
    rw [resolveAcc, denote, and_iff_left (refsOK_leaf this vars rfl rfl)]
    cases hl : lookupTok x vars with
    | none => simp only [reduceCtorEq]
    | some t0 => simp only [hb.2 x t0 hl, if_true, Except.ok.injEq, Option.some.injEq]
  | field _ _ _ | index _ _ _ => cases he
  | _ => simp only [resolveAcc, denote, reduceCtorEq, false_and]

theorem checkRefs_of_resolveAcc {e : Expr} (hc : checkRefs this vars e = (do let _ ← resolveAcc this vars e; pure ()))
    (hr : ∀ t, resolveAcc this vars e = .ok t ↔ denote this vars e = some t ∧ RefsOK this vars e)
    (hd : RefsOK this vars e → RefOK this vars e) : checkRefs this vars e = .ok () ↔ RefsOK this vars e := by
  rw [hc, bind_ok_iff]
  constructor
  · rintro ⟨t, h, -⟩
    exact ((hr t).1 h).2
  · intro h
    obtain ⟨⟨t, hd, -⟩, -⟩ := hd h
    exact ⟨t, (hr t).2 ⟨hd, h⟩, rfl⟩

mutual
/-- both statements for a node at once: the check of an accessor is the resolution of that same node, and the resolution
    of an index checks the index expression, so neither goes through by structural induction alone -/
theorem refs_ok_iff (hb : BaseMsgs this vars) : ∀ (e : Expr),
    (∀ t, resolveAcc this vars e = .ok t ↔ denote this vars e = some t ∧ RefsOK this vars e) ∧
      (checkRefs this vars e = .ok () ↔ RefsOK this vars e)
  | .field ty m name => by
      refine (fun hr => ⟨hr, checkRefs_of_resolveAcc this vars (by rw [checkRefs]) hr fun h => ((refsOK_field ..).1 h).1⟩) fun t => ?_
      · rw [resolveAcc_field, refsOK_field]
        constructor
        · rintro ⟨t0, h0, hf, hc⟩
          obtain ⟨hm, hr⟩ := ((refs_ok_iff hb m).1 t0).1 h0
          have hd : denote this vars (.field ty m name) = some t := by rw [denote, hm]; exact hf
          exact ⟨hd, ⟨⟨t, hd, hc⟩, trivial⟩, hr⟩
        · rintro ⟨hd, ⟨⟨t1, hd1, hc⟩, -⟩, hr⟩
          rw [hd] at hd1
          cases hd1
          obtain ⟨t0, hm, hf⟩ := Option.bind_eq_some_iff.1 hd
          exact ⟨t0, ((refs_ok_iff hb m).1 t0).2 ⟨hm, hr⟩, hf, hc⟩
  | .index ty a i => by
      refine (fun hr => ⟨hr, checkRefs_of_resolveAcc this vars (by rw [checkRefs]) hr fun h => ((refsOK_index ..).1 h).1⟩) fun t => ?_
      · rw [resolveAcc_index, refsOK_index, (refs_ok_iff hb i).2]
        constructor
        · rintro ⟨t0, h0, ⟨he, hs⟩, hc, hi⟩
          obtain ⟨hm, hr⟩ := ((refs_ok_iff hb a).1 t0).1 h0
          have hd : denote this vars (.index ty a i) = some t := by rw [denote, hm]; exact he
          exact ⟨hd, ⟨⟨t, hd, hc⟩, (inBounds_index this vars ty a i t0 hm).2 hs⟩, hr, hi⟩
        · rintro ⟨hd, ⟨⟨t1, hd1, hc⟩, hs⟩, hr, hi⟩
          rw [hd] at hd1
          cases hd1
          obtain ⟨t0, hm, he⟩ := Option.bind_eq_some_iff.1 hd
          exact ⟨t0, ((refs_ok_iff hb a).1 t0).2 ⟨hm, hr⟩, ⟨he, (inBounds_index this vars ty a i t0 hm).1 hs⟩, hc, hi⟩
  | .lit .. | .this _ | .var .. =>
      ⟨resolveAcc_base this vars hb _ rfl, by
        rw [checkRefs]
        exact iff_of_true rfl (refsOK_leaf this vars rfl rfl)⟩
  | .set _ as | .call _ _ as =>
      ⟨resolveAcc_base this vars hb _ rfl, by
        rw [checkRefs, checkRefsL_ok_iff hb as]
        exact (refsOK_nonacc this vars rfl rfl).symm⟩
  | .un _ _ a =>
      ⟨resolveAcc_base this vars hb _ rfl, by
        rw [checkRefs, (refs_ok_iff hb a).2]
        exact (refsOK_nonacc this vars rfl rfl).symm⟩
  | .range _ a b _ _ | .quant _ _ _ a b | .bin _ _ a b =>
      ⟨resolveAcc_base this vars hb _ rfl, by
        rw [checkRefs, seq_ok_iff, (refs_ok_iff hb a).2, (refs_ok_iff hb b).2]
        exact ((refsOK_nonacc this vars rfl rfl).trans List.forall_mem_append).symm⟩
theorem checkRefsL_ok_iff (hb : BaseMsgs this vars) : ∀ (es : ExprList), checkRefsL this vars es = .ok () ↔ RefsOKL this vars es
  | .nil => by simp [checkRefsL, RefsOKL, ExprList.preorder]
  | .cons e es => by
      rw [checkRefsL, seq_ok_iff, (refs_ok_iff hb e).2, checkRefsL_ok_iff hb es]
      simp only [RefsOK, RefsOKL, ExprList.preorder, List.forall_mem_append]
end

/-- resolution of an accessor chain = pure navigation + validity of every accessor node below it -/
theorem resolveAcc_ok_iff (hb : BaseMsgs this vars) : ∀ (e : Expr) (t : TyTok),
    resolveAcc this vars e = .ok t ↔ denote this vars e = some t ∧ RefsOK this vars e :=
  fun e => (refs_ok_iff this vars hb e).1

/-- **C17**: the expression-level check succeeds iff every field path at every position is valid in the schema -/
theorem checkRefs_ok_iff (hb : BaseMsgs this vars) : ∀ (e : Expr), checkRefs this vars e = .ok () ↔ RefsOK this vars e :=
  fun e => (refs_ok_iff this vars hb e).2

end Hpl

namespace Hpl

/-! ## predicate, event and property level -/

theorem refsCheckPred_ok_iff (this : TyTok) (vars : VarTypes) (hb : BaseMsgs this vars) (p : Pred) :
    refsCheckPred this vars p = .ok () ↔ PredRefsOK this vars p := by
  cases p with
  | expr e => exact checkRefs_ok_iff this vars hb e
  | vtrue | vfalse => simp [refsCheckPred, PredRefsOK]

/-- every declared channel and alias token is a message token -/
def AllMsgs (m : VarTypes) : Prop := ∀ x t, lookupTok x m = some t → t.isMsg = true

/-- a simple event is valid: its channel is declared and its predicate's references are valid against the channel's
    message type (own fields) and the alias map (`@A.…`) -/
def EventRefsOK (msgTypes aliases : VarTypes) (ev : Event) : Prop :=
  ∀ np ∈ ev.simplePreds, ∃ this, lookupTok np.1 msgTypes = some this ∧ PredRefsOK this aliases np.2

theorem refsCheckEvent_ok_iff (msgTypes aliases : VarTypes) (hm : AllMsgs msgTypes) (ha : AllMsgs aliases) :
    ∀ ev : Event, refsCheckEvent msgTypes aliases ev = .ok () ↔ EventRefsOK msgTypes aliases ev
  | .simple n a p => by
      simp only [refsCheckEvent, EventRefsOK, Event.simplePreds, List.mem_singleton, forall_eq]
      cases hl : lookupTok n msgTypes with
      | none => simp
      | some this =>
        simp only [Option.some.injEq, exists_eq_left']
        exact refsCheckPred_ok_iff this aliases ⟨hm n this hl, ha⟩ p
  | .disj a b => by
      rw [refsCheckEvent, seq_ok_iff, refsCheckEvent_ok_iff msgTypes aliases hm ha a, refsCheckEvent_ok_iff msgTypes aliases hm ha b]
      simp only [EventRefsOK, Event.simplePreds, List.forall_mem_append]

theorem refsCheckEvents_ok_iff (msgTypes aliases : VarTypes) (hm : AllMsgs msgTypes) (ha : AllMsgs aliases) :
    ∀ evs : List Event, refsCheckEvents msgTypes aliases evs = .ok () ↔ ∀ ev ∈ evs, EventRefsOK msgTypes aliases ev
  | [] => by simp [refsCheckEvents]
  | ev :: evs => by
      rw [refsCheckEvents, seq_ok_iff, refsCheckEvent_ok_iff msgTypes aliases hm ha ev,
        refsCheckEvents_ok_iff msgTypes aliases hm ha evs, List.forall_mem_cons]

/-- what `aliasMap` returns: every alias of a listed event, bound to its channel's token (the last definition wins) -/
theorem aliasMap_allMsgs (msgTypes : VarTypes) (hm : AllMsgs msgTypes) :
    ∀ (l : List (String × Option String)) (acc out : VarTypes), AllMsgs acc → aliasMap msgTypes l acc = .ok out → AllMsgs out
  | [], acc, out, hacc, h => by simp only [aliasMap] at h; cases h; exact hacc
  | (_, none) :: rest, acc, out, hacc, h => by
      simp only [aliasMap] at h; exact aliasMap_allMsgs msgTypes hm rest acc out hacc h
  | (n, some a) :: rest, acc, out, hacc, h => by
      simp only [aliasMap] at h
      cases hl : lookupTok n msgTypes with
      | none => simp [hl] at h
      | some t =>
        simp only [hl] at h
        refine aliasMap_allMsgs msgTypes hm rest ((a, t) :: acc) out ?_ h
        intro x t' hx
        rw [lookupTok] at hx
        rcases ite_eq hx with ⟨-, hx⟩ | ⟨-, hx⟩
        · cases hx
          exact hm n t hl
        · exact hacc x t' hx

/-- **C17**, property level: the check succeeds iff every aliased event's channel is declared and every simple event
    of the property (activator, behaviour, trigger, terminator; every alternative of a disjunction) is valid -/
theorem refsCheckProperty_ok_iff (msgTypes : VarTypes) (hm : AllMsgs msgTypes) (p : Property) :
    refsCheckProperty msgTypes p = .ok () ↔
      ∃ aliases, aliasMap msgTypes (p.events.flatMap Event.simples) [] = .ok aliases ∧
        ∀ ev ∈ p.events, EventRefsOK msgTypes aliases ev := by
  rw [refsCheckProperty, bind_ok_iff]
  refine exists_congr fun al => and_congr_right fun h1 => ?_
  exact refsCheckEvents_ok_iff msgTypes al hm (aliasMap_allMsgs msgTypes hm _ [] al nofun h1) p.events

/-! ## the error raised identifies the kind of defect -/

theorem containsIndex_err (len : Int) (v : LitVal) (x : Err) (h : containsIndex len v = .error x) : x = .type := by
  cases v <;> simp only [containsIndex] at h <;> try cases h
  split at h <;> cases h; rfl

theorem nextIndex_err (t : TyTok) (i : Expr) (x : Err) (h : nextIndex t i = .error x) : x = .type ∨ x = .index := by
  cases t with
  | arr n sub len =>
    cases i with
    | lit ty tok v =>
      rcases bind_err h with h1 | ⟨b, -, h⟩
      · exact .inl (containsIndex_err len v x h1)
      · rcases ite_eq h with ⟨-, h⟩ | ⟨-, h⟩
        · cases h
        · exact .inr (Except.error.inj h).symm
    | _ => cases h
  | prim _ _ | msg _ _ _ => exact .inl (Except.error.inj h).symm

theorem nextField_err (t : TyTok) (n : String) (x : Err) (h : nextField t n = .error x) : x = .type := by
  rw [nextField_eq] at h
  revert h
  cases tokFieldOf t n with
  | none => exact fun h => (Except.error.inj h).symm
  | some _ => exact nofun

/-- the documented failures: a type error (unknown field, field/array confusion, type mismatch), an index error
    (literal index out of range), a sanity error (no token for the root variable); anything else is an internal
    assertion about the shape of the tree or of the schema -/
def RefErr (x : Err) : Prop := x = .type ∨ x = .index ∨ x = .sanity ∨ ∃ s, x = .internal s

theorem RefErr.internal (s : String) : RefErr (.internal s) := .inr (.inr (.inr ⟨s, rfl⟩))

theorem compatTy_err (ty : DataType) (t : TyTok) (x : Err) (h : compatTy ty t = .error x) : x = .type := by
  rcases ite_eq h with ⟨_, h⟩ | ⟨_, h⟩ <;> cases h
  rfl

theorem resolveAcc_base_err (this : TyTok) (vars : VarTypes) (e : Expr) (he : isAccessor e = false) (x : Err)
    (h : resolveAcc this vars e = .error x) : RefErr x := by
  cases e with
  | this _ =>
    rw [resolveAcc] at h
    rcases ite_eq h with ⟨_, h⟩ | ⟨_, h⟩ <;> cases h
    exact .internal _
  | var _ v =>
    rw [resolveAcc] at h
    cases hl : lookupTok v vars with
    | none =>
      simp only [hl] at h
      cases h
      exact .inr (.inr (.inl rfl))
    | some t =>
      simp only [hl] at h
      rcases ite_eq h with ⟨_, h⟩ | ⟨_, h⟩ <;> cases h
      exact .internal _
  | field _ _ _ | index _ _ _ => cases he
  | _ =>
    simp only [resolveAcc] at h
    cases h
    exact .internal _

theorem checkRefs_err_of_resolveAcc (this : TyTok) (vars : VarTypes) {e : Expr}
    (hc : checkRefs this vars e = (do let _ ← resolveAcc this vars e; pure ()))
    (hr : ∀ x, resolveAcc this vars e = .error x → RefErr x) (x : Err) (h : checkRefs this vars e = .error x) : RefErr x := by
  rw [hc] at h
  rcases bind_err h with h0 | ⟨_, -, h⟩
  · exact hr x h0
  · cases h

mutual
/-- both functions at once, for the same reason as in `refs_ok_iff` -/
theorem refs_err (this : TyTok) (vars : VarTypes) : ∀ (e : Expr),
    (∀ x, resolveAcc this vars e = .error x → RefErr x) ∧ (∀ x, checkRefs this vars e = .error x → RefErr x)
  | .field ty m name => by
      refine (fun hr => ⟨hr, checkRefs_err_of_resolveAcc this vars (by rw [checkRefs]) hr⟩) fun x h => ?_
      · rw [resolveAcc] at h
        rcases bind_err h with h0 | ⟨t0, -, h⟩
        · exact (refs_err this vars m).1 x h0
        · rcases bind_err h with h1 | ⟨t1, -, h⟩
          · exact .inl (nextField_err t0 name x h1)
          · rcases bind_err h with h2 | ⟨_, -, h⟩
            · exact .inl (compatTy_err ty t1 x h2)
            · cases h
  | .index ty a i => by
      refine (fun hr => ⟨hr, checkRefs_err_of_resolveAcc this vars (by rw [checkRefs]) hr⟩) fun x h => ?_
      · rw [resolveAcc] at h
        rcases bind_err h with h0 | ⟨t0, -, h⟩
        · exact (refs_err this vars a).1 x h0
        · rcases bind_err h with h1 | ⟨t1, -, h⟩
          · exact (nextIndex_err t0 i x h1).elim .inl (.inr ∘ .inl)
          · rcases bind_err h with h2 | ⟨_, -, h⟩
            · exact .inl (compatTy_err ty t1 x h2)
            · rcases bind_err h with h3 | ⟨_, -, h⟩
              · exact (refs_err this vars i).2 x h3
              · cases h
  | .lit .. | .this _ | .var .. => ⟨resolveAcc_base_err this vars _ rfl, fun x h => by rw [checkRefs] at h; cases h⟩
  | .set _ as | .call _ _ as =>
      ⟨resolveAcc_base_err this vars _ rfl, fun x h => checkRefsL_err this vars as x (by rwa [checkRefs] at h)⟩
  | .un _ _ a => ⟨resolveAcc_base_err this vars _ rfl, fun x h => (refs_err this vars a).2 x (by rwa [checkRefs] at h)⟩
  | .range _ a b _ _ | .quant _ _ _ a b | .bin _ _ a b => by
      refine ⟨resolveAcc_base_err this vars _ rfl, fun x h => ?_⟩
      rw [checkRefs] at h
      rcases bind_err h with h0 | ⟨_, -, h⟩
      · exact (refs_err this vars a).2 x h0
      · exact (refs_err this vars b).2 x h
theorem checkRefsL_err (this : TyTok) (vars : VarTypes) : ∀ (es : ExprList) (x : Err), checkRefsL this vars es = .error x → RefErr x
  | .nil, x, h => by rw [checkRefsL] at h; cases h
  | .cons e es, x, h => by
      rw [checkRefsL] at h
      rcases bind_err h with h0 | ⟨_, -, h⟩
      · exact (refs_err this vars e).2 x h0
      · exact checkRefsL_err this vars es x h
end

theorem resolveAcc_err (this : TyTok) (vars : VarTypes) : ∀ (e : Expr) (x : Err), resolveAcc this vars e = .error x → RefErr x :=
  fun e => (refs_err this vars e).1

theorem checkRefs_err (this : TyTok) (vars : VarTypes) : ∀ (e : Expr) (x : Err), checkRefs this vars e = .error x → RefErr x :=
  fun e => (refs_err this vars e).2

/-! ## navigation helpers agree with the declared field tree -/

theorem containsName_iff (t : TyTok) (n : String) : containsName t n = (tokFieldOf t n).isSome := by
  cases t with
  | msg _ fs cs => simp only [containsName, tokFieldOf]; cases fs.find n <;> simp
  | prim _ _ | arr _ _ _ => rfl

theorem getTypeOf_ok_iff (name : String) (fs cs : FieldList) (n : String) (t' : TyTok) :
    getTypeOf (.msg name fs cs) n = .ok t' ↔ tokFieldOf (.msg name fs cs) n = some t' := by
  simp only [getTypeOf, tokFieldOf]
  cases h1 : fs.find n with
  | some a => simp
  | none => cases h2 : cs.find n <;> simp

/-! ## token constructors reject ill-formed declarations -/

theorem mkRanged_ok_iff (ty : DataType) (lo hi : Rat) :
    mkRanged ty lo hi = .ok () ↔ ty ∈ [T.BOOL, T.NUMBER, T.STRING, T.ARRAY, T.SET, T.MESSAGE] ∧ lo ≤ hi := by
  unfold mkRanged
  split
  · simp_all
  · split
    · rename_i h1 h2; simp only [reduceCtorEq, false_iff, not_and, Rat.not_le]; exact fun _ => h2
    · rename_i h1 h2; simp only [true_iff]; exact ⟨Classical.not_not.mp h1, Rat.not_lt.mp h2⟩

theorem mkArray_ok_iff (len : Int) : mkArray len = .ok () ↔ -1 ≤ len := by
  unfold mkArray; split <;> simp <;> omega

/-! ## `leaf_fields()` lists exactly the paths of the declared tree that end in a non-message field -/

theorem find_mem_names : ∀ (fs : FieldList) (n : String) (t : TyTok), fs.find n = some t → n ∈ fs.names
  | .nil, _, _, h => by simp [FieldList.find] at h
  | .cons m t0 rest, n, t, h => by
      simp only [FieldList.find] at h
      simp only [FieldList.names, List.mem_cons]
      split at h
      · rename_i hm; exact Or.inl (eq_of_beq hm).symm
      · exact Or.inr (find_mem_names rest n t h)

theorem walk_msg_nonempty (name : String) (fs cs : FieldList) : ∀ (path : List String), path ≠ [] →
    walk (.msg name fs cs) path = walkL fs path
  | [], h => absurd rfl h
  | n :: rest, _ => by simp [walk, walkL]

theorem walk_nonmsg (t : TyTok) (h : t.isMsg = false) : ∀ (path : List String), path ≠ [] → walk t path = none
  | [], hp => absurd rfl hp
  | n :: rest, _ => by cases t <;> simp_all [walk, TyTok.isMsg]

theorem joinDots_cons (n : String) : ∀ (path : List String), path ≠ [] → joinDots (n :: path) = n ++ "." ++ joinDots path
  | [], h => absurd rfl h
  | _ :: _, _ => rfl

/-- a leaf of the declared tree: a non-empty path of field names from the message type to a non-message token -/
def IsLeaf (fs : FieldList) (p : String) (t : TyTok) : Prop :=
  ∃ path, path ≠ [] ∧ p = joinDots path ∧ walkL fs path = some t ∧ t.isMsg = false

theorem isLeaf_cons (n : String) (t0 : TyTok) (rest : FieldList) (hnot : n ∉ rest.names) (p : String) (t : TyTok) :
    IsLeaf (.cons n t0 rest) p t ↔
      (∃ path, p = joinDots (n :: path) ∧ walk t0 path = some t ∧ t.isMsg = false) ∨ IsLeaf rest p t := by
  constructor
  · rintro ⟨path, hne, hp, hw, hleaf⟩
    cases path with
    | nil => exact absurd rfl hne
    | cons m rest' =>
      simp only [walkL, FieldList.find] at hw
      by_cases hmn : (n == m) = true
      · simp only [hmn, ↓reduceIte, Option.bind_some] at hw
        cases eq_of_beq hmn
        exact .inl ⟨rest', hp, hw, hleaf⟩
      · simp only [hmn, Bool.false_eq_true, ↓reduceIte] at hw
        exact .inr ⟨m :: rest', hne, hp, hw, hleaf⟩
  · rintro (⟨path, hp, hw, hleaf⟩ | h)
    · exact ⟨n :: path, List.cons_ne_nil _ _, hp, by simpa [walkL, FieldList.find] using hw, hleaf⟩
    · obtain ⟨path, hne, hp, hw, hleaf⟩ := h
      refine ⟨path, hne, hp, ?_, hleaf⟩
      cases path with
      | nil => exact absurd rfl hne
      | cons m rest' =>
        simp only [walkL] at hw ⊢
        cases hf : rest.find m with
        | none => simp [hf] at hw
        | some tm =>
          have hmn : (n == m) = false := by
            cases hb : n == m with
            | false => rfl
            | true => exact absurd ((eq_of_beq hb) ▸ find_mem_names rest m tm hf) hnot
          simp only [FieldList.find, hmn, Bool.false_eq_true, ↓reduceIte, hf] at hw ⊢
          exact hw

theorem head_nonmsg (n : String) (t0 : TyTok) (h0 : t0.isMsg = false) (p : String) (t : TyTok) :
    (∃ path, p = joinDots (n :: path) ∧ walk t0 path = some t ∧ t.isMsg = false) ↔ p = n ∧ t = t0 := by
  constructor
  · rintro ⟨path, rfl, hw, -⟩
    cases path with
    | nil => cases hw; exact ⟨rfl, rfl⟩
    | cons m rest => rw [walk_nonmsg t0 h0 _ (List.cons_ne_nil _ _)] at hw; cases hw
  · rintro ⟨rfl, rfl⟩
    exact ⟨[], rfl, rfl, h0⟩

/-- **C17**: `leaf_fields()` lists exactly the leaves of the declared field tree (dotted paths), given unique keys -/
theorem mem_leafFieldsL_iff : ∀ (fs : FieldList), fs.WF → ∀ (p : String) (t : TyTok), (p, t) ∈ leafFieldsL fs ↔ IsLeaf fs p t
  | .nil, _, p, t => by
      simp only [leafFieldsL, List.not_mem_nil, false_iff]
      rintro ⟨path, hne, _, hw, _⟩
      cases path with
      | nil => exact hne rfl
      | cons n rest => simp [walkL, FieldList.find] at hw
  | .cons n (.msg name fs0 cs0) rest, hwf, p, t => by
      obtain ⟨hnot, hwf0, hwfr⟩ := hwf
      rw [isLeaf_cons n _ rest hnot, ← mem_leafFieldsL_iff rest hwfr p t]
      simp only [leafFieldsL, List.mem_append, List.mem_map]
      refine or_congr ?_ Iff.rfl
      constructor
      · rintro ⟨⟨p', t'⟩, hmem, heq⟩
        cases heq
        obtain ⟨path', hne, rfl, hw, hleaf⟩ := (mem_leafFieldsL_iff fs0 hwf0.1 p' t').1 hmem
        exact ⟨path', (joinDots_cons n path' hne).symm, (walk_msg_nonempty name fs0 cs0 path' hne).trans hw, hleaf⟩
      · rintro ⟨path, rfl, hw, hleaf⟩
        by_cases hr : path = []
        · subst hr
          cases hw
          cases hleaf
        · rw [walk_msg_nonempty name fs0 cs0 path hr] at hw
          exact ⟨(joinDots path, t), (mem_leafFieldsL_iff fs0 hwf0.1 _ t).2 ⟨path, hr, rfl, hw, hleaf⟩,
            by rw [joinDots_cons n path hr]⟩
  | .cons n (.prim _ _) rest, hwf, p, t | .cons n (.arr _ _ _) rest, hwf, p, t => by
      rw [isLeaf_cons n _ rest hwf.1, ← mem_leafFieldsL_iff rest hwf.2.2 p t, head_nonmsg n _ rfl]
      simp only [leafFieldsL, List.mem_cons, Prod.mk.injEq]

theorem mem_leafFields_iff (name : String) (fs cs : FieldList) (h : (TyTok.msg name fs cs).WF) (p : String) (t : TyTok) :
    (p, t) ∈ leafFields (.msg name fs cs) ↔ IsLeaf fs p t := by
  simp only [leafFields]; exact mem_leafFieldsL_iff fs h.1 p t

-- non-vacuity: T { x: num, m: M { b: bool, n: N { c: bool } } }
example : leafFields (.msg "T" (.cons "x" (.prim "int32" 2) (.cons "m" (.msg "M" (.cons "b" (.prim "bool" 1)
    (.cons "n" (.msg "N" (.cons "c" (.prim "bool" 1) .nil) .nil) .nil)) .nil) .nil)) .nil)
    = [("x", .prim "int32" 2), ("m.b", .prim "bool" 1), ("m.n.c", .prim "bool" 1)] := by
  simp [leafFields, leafFieldsL]

/-! ## predefined integer tokens (table G6, regenerated from `hpl.types` on every run) -/

/-- two's-complement bounds of a `bits`-wide integer -/
def intBounds (signed : Bool) (bits : Nat) : Int × Int :=
  if signed then (-(2 ^ (bits - 1) : Int), 2 ^ (bits - 1) - 1) else (0, 2 ^ bits - 1)

/-- **C17**: the predefined integer type tokens are NUMBER tokens carrying exactly the two's-complement bounds of their width -/
theorem G6_int_tokens :
    (Gen.rangedTypes.filter (·.isInt)).map (fun r => (r.name, r.ty, (r.lo, r.hi))) =
      [("uint8", T.NUMBER, intBounds false 8), ("uint16", T.NUMBER, intBounds false 16), ("uint32", T.NUMBER, intBounds false 32),
       ("uint64", T.NUMBER, intBounds false 64), ("int8", T.NUMBER, intBounds true 8), ("int16", T.NUMBER, intBounds true 16),
       ("int32", T.NUMBER, intBounds true 32), ("int64", T.NUMBER, intBounds true 64)] := by decide

/-- every predefined ranged token is well formed (`min <= max`), so its own validator accepts it -/
theorem G6_well_formed : ∀ r ∈ Gen.rangedTypes, r.lo ≤ r.hi ∧ r.ty = T.NUMBER := by decide

end Hpl
