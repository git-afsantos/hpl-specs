import Hpl.Props.C07b
import Hpl.Props.C18b
/-!
# C07 — what the property-level parser produces is well formed, hence `parse_property` / `parse_specification`
  fail only with documented classes (no hypothesis left)
-/
namespace Hpl

theorem pEventBody_alias {name : String} {al : Option String} {ts : List Tok} {s : RawSimple} {r : List Tok}
    (h : pEventBody name al ts = .ok (s, r)) : s.alias = al := by
  rcases pEventBody_ok h with ⟨p, -, rfl⟩ | ⟨-, rfl, -⟩ <;> rfl

/-- the alias an event is given is a `CNAME`, hence non-empty -/
theorem pEvent_aliasOK {ts : List Tok} {s : RawSimple} {r : List Tok} (h : pEvent ts = .ok (s, r)) : s.aliasOK := by
  intro a ha
  obtain ⟨n, r0, -, -, -, hb⟩ := pEvent_ok h
  rcases hb with ⟨a', v, r2, -, -, -, hc, hb⟩ | ⟨-, hb⟩ <;> rw [pEventBody_alias hb] at ha <;> cases ha
  intro he
  rw [he] at hc
  cases hc

theorem pDisjTail_WF (f : Nat) : ∀ (acc : List RawSimple) (ts : List Tok) (ev : RawEvent) (r : List Tok),
    pDisjTail f acc ts = .ok (ev, r) → (∀ s ∈ acc, s.aliasOK) → ev.WF ∧ ev.aliasesOK := by
  induction f with
  | zero => intro _ _ _ _ h; cases h
  | succ f ih =>
    intro acc ts ev r h hacc
    obtain ⟨f', e, t, r1, hf, he, hc⟩ := pDisjTail_ok h
    cases hf
    have hea : ∀ s ∈ e :: acc, s.aliasOK := List.forall_mem_cons.2 ⟨pEvent_aliasOK he, hacc⟩
    rcases hc with ⟨-, h⟩ | ⟨-, hne, rfl, -⟩
    · exact ih (e :: acc) r1 ev r h hea
    · refine ⟨?_, fun s hs => hea s (List.mem_reverse.1 hs)⟩
      cases acc with
      | nil => exact absurd rfl hne
      | cons _ _ => simp [RawEvent.WF]

theorem pAnyEvent_WF {ts : List Tok} {ev : RawEvent} {r : List Tok} (h : pAnyEvent ts = .ok (ev, r)) : ev.WF ∧ ev.aliasesOK := by
  obtain ⟨t, r0, -, hc⟩ := pAnyEvent_ok h
  rcases hc with ⟨-, h⟩ | ⟨-, s, he, rfl⟩
  · exact pDisjTail_WF _ [] r0 ev r h nofun
  · exact ⟨trivial, pEvent_aliasOK he⟩

def OptWF (e : Option RawEvent) : Prop := ∀ x, e = some x → x.WF ∧ x.aliasesOK

theorem optWF_none : OptWF none := nofun

theorem optWF_some {ts : List Tok} {e : RawEvent} {r : List Tok} (h : pAnyEvent ts = .ok (e, r)) : OptWF (some e) := by
  intro x hx
  cases hx
  exact pAnyEvent_WF h

theorem pScope_WF {ts : List Tok} {sk : ScopeKind} {act term : Option RawEvent} {r : List Tok}
    (h : pScope ts = .ok (sk, act, term, r)) : OptWF act ∧ OptWF term := by
  obtain ⟨t, r0, -, hc⟩ := pScope_ok h
  rcases hc with ⟨-, -, rfl, rfl, -⟩ | ⟨-, e, r1, ha, rfl, hq⟩ | ⟨-, e, ha, -, rfl, rfl⟩
  · exact ⟨optWF_none, optWF_none⟩
  · rcases hq with ⟨u, r2, e2, -, -, hb, -, rfl⟩ | ⟨-, -, rfl, -⟩
    · exact ⟨optWF_some ha, optWF_some hb⟩
    · exact ⟨optWF_some ha, optWF_none⟩
  · exact ⟨optWF_none, optWF_some ha⟩

theorem pEvTb_WF {mk : RawEvent → Option (Rat × TimeUnit) → RawProperty} {ts : List Tok} {p : RawProperty} {r : List Tok}
    (h : pEvTb mk ts = .ok (p, r)) (hmk : ∀ {ts' r'} b tb, pAnyEvent ts' = .ok (b, r') → (mk b tb).WF) : p.WF := by
  obtain ⟨b, r1, tb, hb, -, rfl⟩ := pEvTb_ok h
  exact hmk b tb hb

theorem pPattern_WF {act term : Option RawEvent} (hact : OptWF act) (hterm : OptWF term) {sk : ScopeKind}
    {md : List (String × String)} {ts : List Tok} {p : RawProperty} {r : List Tok}
    (h : pPattern sk act term md ts = .ok (p, r)) : p.WF := by
  obtain ⟨t, r0, -, hc⟩ := pPattern_ok h
  rcases hc with ⟨-, h⟩ | ⟨-, h⟩ | ⟨-, -, e1, k, r2, w, hw, he1, -, h⟩
  iterate 2 exact pEvTb_WF h fun b tb hb => ⟨(pAnyEvent_WF hb).1, (pAnyEvent_WF hb).2, hact, hterm, optWF_none⟩
  · have h1 := pAnyEvent_WF he1
    simp only [binPattern, List.mem_cons, List.not_mem_nil, or_false] at hw
    rcases hw with rfl | rfl | rfl
    iterate 2 exact pEvTb_WF h fun b tb hb => ⟨(pAnyEvent_WF hb).1, (pAnyEvent_WF hb).2, hact, hterm, optWF_some he1⟩
    · exact pEvTb_WF h fun b tb hb => ⟨h1.1, h1.2, hact, hterm, optWF_some hb⟩

theorem pProperty_WF {ts : List Tok} {p : RawProperty} {r : List Tok} (h : pProperty ts = .ok (p, r)) : p.WF := by
  obtain ⟨md, r1, sk, act, term, c, r3, -, hs, -, hp⟩ := pProperty_ok h
  obtain ⟨hact, hterm⟩ := pScope_WF hs
  exact pPattern_WF hact hterm hp

theorem pFile_WF : ∀ (f : Nat) (acc : List RawProperty) (ts : List Tok) (ps : List RawProperty),
    pFile f acc ts = .ok ps → (∀ p ∈ acc, p.WF) → ∀ p ∈ ps, p.WF := by
  intro f
  induction f with
  | zero => intro _ _ _ h; cases h
  | succ f ih =>
    intro acc ts ps h hacc
    obtain ⟨f', p, rest, hf, hp, hc⟩ := pFile_ok h
    cases hf
    have hacc' : ∀ q ∈ acc ++ [p], q.WF :=
      List.forall_mem_append.2 ⟨hacc, List.forall_mem_singleton.2 (pProperty_WF hp)⟩
    rcases hc with ⟨-, rfl⟩ | ⟨-, h⟩
    · exact hacc'
    · exact ih (acc ++ [p]) rest ps h hacc'

/-- **C07**: `parse_property` (model) fails only with a documented class — no hypothesis -/
theorem parseProperty_documented (s : String) (x : Err) (h : parseProperty s = .error x) : x.documented := by
  unfold parseProperty at h
  split at h
  · cases h; trivial
  · split at h
    · cases h; trivial
    · rename_i r hr
      exact buildProperty_documented r (pProperty_WF (parsePropertyToks_ok hr)) x h

/-- **C07**: `parse_specification` (model) fails only with a documented class — no hypothesis -/
theorem parseSpecification_documented (s : String) (x : Err) (h : parseSpecification s = .error x) : x.documented := by
  unfold parseSpecification at h
  split at h
  · cases h; trivial
  · split at h
    · cases h; trivial
    · rename_i rs hrs
      exact buildSpec_documented rs (pFile_WF _ [] _ rs hrs (by intro p hp; cases hp)) x h

end Hpl
