import Hpl.Props.C13b
/-!
# C13 — `replace_this_with_var` produces a renaming, and `replace_var_with_this` undoes it

`RenM A e e1`: `e1` is `e` with every `this` leaf replaced by `@A` at a type set that still contains MESSAGE (what the constructors
leave of the fresh variable's ITEM), everything else identical. `subst_fwd`: on a well-typed tree whose quantifiers and calls pass
their constructors, which does not use the name `A`, and in which the current message occurs only as the message of a field access
(all the grammar can write), `replace_this_with_var(·, A)` succeeds and returns such a renaming; with `subst_back` (C13b) the two
replacements undo each other.
-/
namespace Hpl

mutual
def RenM (A : String) : Expr → Expr → Prop
  | .this _, e1 => ∃ ty, e1 = .var ty A ∧ sub T.MESSAGE ty
  | e@(.lit ..), e1 => e1 = e
  | e@(.var ..), e1 => e1 = e
  | .set t vs, e1 => ∃ vs1, e1 = .set t vs1 ∧ RenML A vs vs1
  | .range t lo hi a b, e1 => ∃ lo1 hi1, e1 = .range t lo1 hi1 a b ∧ RenM A lo lo1 ∧ RenM A hi hi1
  | .quant t q x d b, e1 => ∃ d1 b1, e1 = .quant t q x d1 b1 ∧ RenM A d d1 ∧ RenM A b b1
  | .un t op a, e1 => ∃ a1, e1 = .un t op a1 ∧ RenM A a a1
  | .bin t op a b, e1 => ∃ a1 b1, e1 = .bin t op a1 b1 ∧ RenM A a a1 ∧ RenM A b b1
  | .call t f as, e1 => ∃ as1, e1 = .call t f as1 ∧ RenML A as as1
  | .field t m n, e1 => ∃ m1, e1 = .field t m1 n ∧ RenM A m m1
  | .index t a i, e1 => ∃ a1 i1, e1 = .index t a1 i1 ∧ RenM A a a1 ∧ RenM A i i1
def RenML (A : String) : ExprList → ExprList → Prop
  | .nil, es1 => es1 = .nil
  | .cons e es, es1 => ∃ e1 es1', es1 = .cons e1 es1' ∧ RenM A e e1 ∧ RenML A es es1'
end

mutual
theorem RenM.ren (A : String) : ∀ (e e1 : Expr), RenM A e e1 → Ren A e e1
  | .this _, _, ⟨ty, h, _⟩ => ⟨ty, h⟩
  | .lit .., _, h => h
  | .var .., _, h => h
  | .set _ vs, _, ⟨vs1, h, hl⟩ => ⟨vs1, h, RenML.ren A vs vs1 hl⟩
  | .range _ lo hi _ _, _, ⟨l1, h1, h, hl, hh⟩ => ⟨l1, h1, h, RenM.ren A lo l1 hl, RenM.ren A hi h1 hh⟩
  | .quant _ _ _ d b, _, ⟨d1, b1, h, hd, hb⟩ => ⟨d1, b1, h, RenM.ren A d d1 hd, RenM.ren A b b1 hb⟩
  | .un _ _ a, _, ⟨a1, h, ha⟩ => ⟨a1, h, RenM.ren A a a1 ha⟩
  | .bin _ _ a b, _, ⟨a1, b1, h, ha, hb⟩ => ⟨a1, b1, h, RenM.ren A a a1 ha, RenM.ren A b b1 hb⟩
  | .call _ _ as, _, ⟨as1, h, hl⟩ => ⟨as1, h, RenML.ren A as as1 hl⟩
  | .field _ m _, _, ⟨m1, h, hm⟩ => ⟨m1, h, RenM.ren A m m1 hm⟩
  | .index _ a i, _, ⟨a1, i1, h, ha, hi⟩ => ⟨a1, i1, h, RenM.ren A a a1 ha, RenM.ren A i i1 hi⟩
theorem RenML.ren (A : String) : ∀ (es es1 : ExprList), RenML A es es1 → RenL A es es1
  | .nil, _, h => h
  | .cons e es, _, ⟨e1, es1', h, he, hes⟩ => ⟨e1, es1', h, RenM.ren A e e1 he, RenML.ren A es es1' hes⟩
end

def Expr.isThisB : Expr → Bool | .this _ => true | _ => false

mutual
/-- the current message occurs only as the message of a field access -/
def NoBareThis : Expr → Prop
  | .this _ => False
  | .lit .. | .var .. => True
  | .set _ vs => NoBareThisL vs
  | .range _ lo hi _ _ => NoBareThis lo ∧ NoBareThis hi
  | .quant _ _ _ d b => NoBareThis d ∧ NoBareThis b
  | .un _ _ a => NoBareThis a
  | .bin _ _ a b => NoBareThis a ∧ NoBareThis b
  | .call _ _ as => NoBareThisL as
  | .field _ m _ => m.isThisB = true ∨ NoBareThis m
  | .index _ a i => NoBareThis a ∧ NoBareThis i
def NoBareThisL : ExprList → Prop
  | .nil => True
  | .cons e es => NoBareThis e ∧ NoBareThisL es
end

theorem renM_node {A : String} {e e1 : Expr} (h : RenM A e e1) :
    (∃ t ty, e = .this t ∧ e1 = .var ty A) ∨
    (e.isThisB = false ∧ e1.ty = e.ty ∧ ∀ x, isVarNamed x e1 = isVarNamed x e ∧ bindsName x e1 = bindsName x e) := by
  cases e with
  | this t => obtain ⟨ty, rfl, _⟩ := h; exact .inl ⟨t, ty, rfl, rfl⟩
  | lit | var => subst h; exact .inr ⟨rfl, rfl, fun _ => ⟨rfl, rfl⟩⟩
  | set | un | call | field => obtain ⟨_, rfl, _⟩ := h; exact .inr ⟨rfl, rfl, fun _ => ⟨rfl, rfl⟩⟩
  | range | quant | bin | index => obtain ⟨_, _, rfl, _⟩ := h; exact .inr ⟨rfl, rfl, fun _ => ⟨rfl, rfl⟩⟩

theorem renM_ty {A : String} {e e1 : Expr} (h : RenM A e e1) (hn : e.isThisB = false) : e1.ty = e.ty := by
  rcases renM_node h with ⟨t, _, rfl, _⟩ | h
  · cases hn
  · exact h.2.1

theorem noBare_notThis {e : Expr} (h : NoBareThis e) : e.isThisB = false := by
  cases e with
  | this _ => exact h.elim
  | _ => rfl

inductive All2 {α β : Type} (R : α → β → Prop) : List α → List β → Prop
  | nil : All2 R [] []
  | cons {a b l m} : R a b → All2 R l m → All2 R (a :: l) (b :: m)

theorem forall₂_append {α β : Type} {R : α → β → Prop} : ∀ {l1 : List α} {m1 : List β} {l2 : List α} {m2 : List β},
    All2 R l1 m1 → All2 R l2 m2 → All2 R (l1 ++ l2) (m1 ++ m2)
  | _, _, _, _, .nil, h2 => h2
  | _, _, _, _, .cons h t, h2 => .cons h (forall₂_append t h2)

mutual
theorem renM_preorder (A : String) : ∀ (e e1 : Expr), RenM A e e1 → All2 (RenM A) e.preorder e1.preorder
  | .this t, _, ⟨ty, rfl, hs⟩ => .cons ⟨ty, rfl, hs⟩ .nil
  | .lit t k v, _, rfl => .cons rfl .nil
  | .var t x, _, rfl => .cons rfl .nil
  | .set t vs, _, ⟨vs1, rfl, hl⟩ => .cons ⟨vs1, rfl, hl⟩ (renML_preorder A vs vs1 hl)
  | .range t lo hi a b, _, ⟨l1, h1, rfl, hl, hh⟩ =>
      .cons ⟨l1, h1, rfl, hl, hh⟩ (forall₂_append (renM_preorder A lo l1 hl) (renM_preorder A hi h1 hh))
  | .quant t q x d b, _, ⟨d1, b1, rfl, hd, hb⟩ =>
      .cons ⟨d1, b1, rfl, hd, hb⟩ (forall₂_append (renM_preorder A d d1 hd) (renM_preorder A b b1 hb))
  | .un t op a, _, ⟨a1, rfl, ha⟩ => .cons ⟨a1, rfl, ha⟩ (renM_preorder A a a1 ha)
  | .bin t op a b, _, ⟨a1, b1, rfl, ha, hb⟩ =>
      .cons ⟨a1, b1, rfl, ha, hb⟩ (forall₂_append (renM_preorder A a a1 ha) (renM_preorder A b b1 hb))
  | .call t f as, _, ⟨as1, rfl, hl⟩ => .cons ⟨as1, rfl, hl⟩ (renML_preorder A as as1 hl)
  | .field t m n, _, ⟨m1, rfl, hm⟩ => .cons ⟨m1, rfl, hm⟩ (renM_preorder A m m1 hm)
  | .index t a i, _, ⟨a1, i1, rfl, ha, hi⟩ =>
      .cons ⟨a1, i1, rfl, ha, hi⟩ (forall₂_append (renM_preorder A a a1 ha) (renM_preorder A i i1 hi))
theorem renML_preorder (A : String) : ∀ (es es1 : ExprList), RenML A es es1 → All2 (RenM A) es.preorder es1.preorder
  | .nil, _, rfl => .nil
  | .cons e es, _, ⟨e1, es1', rfl, he, hes⟩ => forall₂_append (renM_preorder A e e1 he) (renML_preorder A es es1' hes)
end

/-- the loop of `_check_condition_is_bool` reads of a node only whether it binds `x`, whether it is `@x`, and its type -/
theorem quantBodyCheck_cons (x : String) (t : DataType) (e : Expr) (rest : List Expr) (used : Nat) :
    quantBodyCheck x t (e :: rest) used =
      if bindsName x e then .error .sanity
      else if isVarNamed x e then (if e.ty &&& t = 0 then .error .type else quantBodyCheck x t rest (used + 1))
      else quantBodyCheck x t rest used := by
  cases e with
  | quant _ _ y _ _ =>
    change ite ((y == x) = true) _ _ = ite ((x == y) = true) _ _
    rw [BEq.comm (a := x)]
    rfl
  | var ty y =>
    change ite ((y == x) = true) _ _ = ite ((x == y) = true) _ _
    rw [BEq.comm (a := x)]
    rfl
  | _ => rfl

/-- the body check of a quantifier over `x ≠ A` does not see the renaming -/
theorem quantBodyCheck_ren {A x : String} (hx : x ≠ A) (t : DataType) : ∀ {l l1 : List Expr}, All2 (RenM A) l l1 → ∀ n,
    quantBodyCheck x t l1 n = quantBodyCheck x t l n
  | _, _, .nil, n => rfl
  | e :: l, e1 :: l1, .cons h hl, n => by
      rw [quantBodyCheck_cons, quantBodyCheck_cons, quantBodyCheck_ren hx t hl, quantBodyCheck_ren hx t hl]
      rcases renM_node h with ⟨_, _, rfl, rfl⟩ | ⟨_, hty, hq⟩
      · simp [bindsName, isVarNamed, hx]
      · rw [hty, (hq x).1, (hq x).2]

theorem any_varNamed_ren {A x : String} (hx : x ≠ A) : ∀ {l l1 : List Expr}, All2 (RenM A) l l1 →
    l1.any (isVarNamed x) = l.any (isVarNamed x)
  | _, _, .nil => rfl
  | e :: l, e1 :: l1, .cons h hl => by
      rw [List.any_cons, List.any_cons, any_varNamed_ren hx hl]
      rcases renM_node h with ⟨_, _, rfl, rfl⟩ | ⟨_, _, hq⟩
      · simp [isVarNamed, hx]
      · rw [(hq x).1]

theorem renML_tys {A : String} : ∀ (es es1 : ExprList), RenML A es es1 → NoBareThisL es → es1.tys = es.tys ∧ es1.length = es.length
  | .nil, _, rfl, _ => ⟨rfl, rfl⟩
  | .cons e es, _, ⟨e1, es1', rfl, he, hes⟩, hn => by
      have := renML_tys es es1' hes hn.2
      refine ⟨?_, congrArg (· + 1) this.2⟩
      change e1.ty :: es1'.tys = e.ty :: es.tys
      rw [renM_ty he (noBare_notThis hn.1), this.1]

theorem domainElemType_ren {A : String} {d d1 : Expr} (h : RenM A d d1) (hn : NoBareThis d) : domainElemType d1 = domainElemType d := by
  cases d with
  | this => exact hn.elim
  | set t vs => obtain ⟨vs1, rfl, hl⟩ := h; exact congrArg unionTy (renML_tys vs vs1 hl hn).1
  | lit | var => subst h; rfl
  | un | call | field => obtain ⟨_, rfl, _⟩ := h; rfl
  | range | quant | bin | index => obtain ⟨_, _, rfl, _⟩ := h; rfl

theorem castE_congr {a a1 : Expr} {t : DataType} (hty : a1.ty = a.ty) (h : castE a t = .ok a) : castE a1 t = .ok a1 :=
  castE_stable (hty ▸ (castE_sub h).1) (hty ▸ (castE_ok h).2.1)

theorem castArgs_congr : ∀ (args as1 : ExprList) (ps : List DataType), as1.tys = args.tys → castArgs args ps = .ok args → castArgs as1 ps = .ok as1
  | .nil, as1, ps, ht, _ => by
      cases as1 with
      | nil => cases ps <;> rfl
      | cons => cases ht
  | .cons a args, as1, [], _, h => nomatch h
  | .cons a args, as1, p :: ps, ht, h => by
      cases as1 with
      | nil => simp [ExprList.tys] at ht
      | cons a1 as1' =>
        simp only [ExprList.tys, List.cons.injEq] at ht
        change (castE a1 p >>= fun e' => castArgs as1' ps >>= _) = _
        obtain ⟨a', ha, h⟩ := bind_ok h
        obtain ⟨as', has, h⟩ := bind_ok h
        cases h
        rw [castE_congr ht.1 ha, castArgs_congr args as1' ps ht.2 has]
        rfl

theorem mkCall_congr {f : String} {as as1 : ExprList} {t : DataType} (htys : as1.tys = as.tys) (hlen : as1.length = as.length)
    (h : mkCall f as = .ok (.call t f as)) : mkCall f as1 = .ok (.call t f as1) := by
  obtain ⟨d, s, as', hd, hf, hc, he⟩ := mkCall_ok h
  cases he
  unfold mkCall
  simp only [hd, htys, hlen, hf, castArgs_congr _ as1 _ htys hc]
  rfl

theorem mkQuant_congr {q : Quant} {x : String} {d b d1 b1 : Expr} {t : DataType}
    (hd : castE d T.COMPOUND = .ok d) (hb : castE b T.BOOL = .ok b) (hd1 : castE d1 T.COMPOUND = .ok d1) (hb1 : castE b1 T.BOOL = .ok b1)
    (hany : d1.preorder.any (isVarNamed x) = d.preorder.any (isVarNamed x))
    (hq : quantBodyCheck x (domainElemType d1) b1.preorder 0 = quantBodyCheck x (domainElemType d) b.preorder 0)
    (h : mkQuant q x d b = .ok (.quant t q x d b)) : mkQuant q x d1 b1 = .ok (.quant t q x d1 b1) := by
  obtain ⟨d', b', u, hd', hb', ha, hu, hu0, he⟩ := mkQuant_ok_iff.1 h
  rw [hd] at hd'
  rw [hb] at hb'
  cases hd'
  cases hb'
  cases he
  exact mkQuant_ok_iff.2 ⟨d1, b1, u, hd1, hb1, hany ▸ ha, hq ▸ hu, hu0, rfl⟩

theorem renML_members {A : String} (P : DataType → Prop) : ∀ (es es1 : ExprList), RenML A es es1 → NoBareThisL es →
    (∀ e ∈ es.toList, P e.ty) → ∀ e1 ∈ es1.toList, P e1.ty
  | .nil, _, rfl, _, _ => fun _ h => nomatch h
  | .cons e es, _, ⟨e1, es1', rfl, he, hes⟩, hn, hp => by
      intro x hx
      rcases List.mem_cons.1 hx with rfl | hx
      · rw [renM_ty he (noBare_notThis hn.1)]
        exact hp e List.mem_cons_self
      · exact renML_members P es es1' hes hn.2 (fun y hy => hp y (List.mem_cons_of_mem _ hy)) x hx

theorem isThis_false_of {e : Expr} (h : e.isThisB = false) : isThis e = false := by
  cases e with
  | this _ => exact nomatch h
  | _ => rfl

theorem cast_item_message (A : String) : castE (.var T.ITEM A) T.MESSAGE = .ok (.var T.MESSAGE A) := by
  have h1 : (T.ITEM &&& T.MESSAGE) = T.MESSAGE := by decide
  have h2 : ¬ (T.MESSAGE = 0) := by decide
  have h3 : ¬ (T.MESSAGE = T.ITEM) := by decide
  unfold castE
  simp only [Expr.ty, Expr.withTy, h1, h2, h3, if_false]

theorem renM_keeps {A : String} {a a1 : Expr} {p : DataType} (hr : RenM A a a1) (hn : a.isThisB = false) (hw : WT a) (hs : sub a.ty p) :
    sub a1.ty p ∧ a1.ty ≠ 0 := by
  rw [renM_ty hr hn]
  exact ⟨hs, WT_ne a hw⟩

mutual
/-- **C13, forward**: `replace_this_with_var(e, A)` succeeds and returns `e` with the current message renamed to `@A` -/
theorem subst_fwd (A : String) : ∀ (e : Expr), WT e → Rebuildable e → NoName A e → NoBareThis e →
    ∃ e1, substE isThis (.var T.ITEM A) e = .ok e1 ∧ RenM A e e1
  | .this t, _, _, _, hb => hb.elim
  | .lit t k v, _, _, _, _ => ⟨.lit t k v, rfl, rfl⟩
  | .var t x, _, _, _, _ => ⟨.var t x, rfl, rfl⟩
  | .set t vs, hw, hb, hn, ht => by
      obtain ⟨vs1, hs, hr⟩ := substL_fwd A vs (WTSet_WTList hw.2) hb hn ht
      refine ⟨.set t vs1, ?_, vs1, rfl, hr⟩
      -- `substE` unfolds by definition (`simp only [substE]` is far slower to check)
      change (substL isThis (.var T.ITEM A) vs >>= _) = _
      rw [hs]
      refine ite_ok_of (fun h => by subst h; rfl) ?_
      rw [castList_stable T.PRIMITIVE vs1 (renML_members (fun ty => sub ty T.PRIMITIVE ∧ ty ≠ 0) vs vs1 hr ht (WTSet_members vs hw.2))]
      rfl
  | .range t lo hi a b, ⟨_, hwl, hwh, hsl, hsh⟩, hb, hn, ht => by
      obtain ⟨l1, hs1, hr1⟩ := subst_fwd A lo hwl hb.1 hn.1 ht.1
      obtain ⟨h1, hs2, hr2⟩ := subst_fwd A hi hwh hb.2 hn.2 ht.2
      have kl := renM_keeps hr1 (noBare_notThis ht.1) hwl hsl
      have kh := renM_keeps hr2 (noBare_notThis ht.2) hwh hsh
      refine ⟨.range t l1 h1 a b, ?_, l1, h1, rfl, hr1, hr2⟩
      change (substE isThis (.var T.ITEM A) lo >>= _) = _
      rw [hs1, hs2]
      refine ite_ok_of (fun h => by obtain ⟨rfl, rfl⟩ := h; rfl) ?_
      rw [castE_stable kl.1 kl.2, castE_stable kh.1 kh.2]
      rfl
  | .quant t q x d b, hw, hb, hn, ht => by
      obtain ⟨d1, hs1, hr1⟩ := subst_fwd A d hw.2.1 hb.2.1 hn.2.1 ht.1
      obtain ⟨b1, hs2, hr2⟩ := subst_fwd A b hw.2.2.1 hb.2.2 hn.2.2 ht.2
      have kd := renM_keeps hr1 (noBare_notThis ht.1) hw.2.1 hw.2.2.2.1
      have kb := renM_keeps hr2 (noBare_notThis ht.2) hw.2.2.1 hw.2.2.2.2.1
      refine ⟨.quant t q x d1 b1, ?_, d1, b1, rfl, hr1, hr2⟩
      change (substE isThis (.var T.ITEM A) d >>= _) = _
      rw [hs1, hs2]
      refine ite_ok_of (fun h => by obtain ⟨rfl, rfl⟩ := h; rfl) ?_
      refine mkQuant_congr (castE_stable hw.2.2.2.1 (WT_ne d hw.2.1)) (castE_stable hw.2.2.2.2.1 (WT_ne b hw.2.2.1))
        (castE_stable kd.1 kd.2) (castE_stable kb.1 kb.2) (any_varNamed_ren hn.1 (renM_preorder A d d1 hr1)) ?_ hb.1
      rw [domainElemType_ren hr1 ht.1]
      exact quantBodyCheck_ren hn.1 _ (renM_preorder A b b1 hr2) 0
  | .un t op a, ⟨dd, hd, hres, hwa, hsa⟩, hb, hn, ht => by
      obtain ⟨a1, hs1, hr1⟩ := subst_fwd A a hwa hb hn ht
      have ka := renM_keeps hr1 (noBare_notThis ht) hwa hsa
      refine ⟨.un t op a1, ?_, a1, rfl, hr1⟩
      change (substE isThis (.var T.ITEM A) a >>= _) = _
      rw [hs1]
      exact ite_ok_of (fun h => by subst h; rfl) (hres ▸ mkUn_stable hd ka.1 ka.2)
  | .bin t op a b, ⟨dd, hd, hres, hwa, hwb, hsa, hsb, heq⟩, hb, hn, ht => by
      obtain ⟨a1, hs1, hr1⟩ := subst_fwd A a hwa hb.1 hn.1 ht.1
      obtain ⟨b1, hs2, hr2⟩ := subst_fwd A b hwb hb.2 hn.2 ht.2
      have ka := renM_keeps hr1 (noBare_notThis ht.1) hwa hsa
      have kb := renM_keeps hr2 (noBare_notThis ht.2) hwb hsb
      refine ⟨.bin t op a1 b1, ?_, a1, b1, rfl, hr1, hr2⟩
      change (substE isThis (.var T.ITEM A) a >>= _) = _
      rw [hs1, hs2]
      refine ite_ok_of (fun h => by obtain ⟨rfl, rfl⟩ := h; rfl) (hres ▸ mkBin_stable hd ka.1 kb.1 ?_ ka.2 kb.2)
      rw [renM_ty hr1 (noBare_notThis ht.1), renM_ty hr2 (noBare_notThis ht.2)]
      exact heq
  | .call t f as, ⟨_, _, _, hwl, _⟩, hb, hn, ht => by
      obtain ⟨as1, hs, hr⟩ := substL_fwd A as hwl hb.2 hn ht
      have htys := renML_tys as as1 hr ht
      refine ⟨.call t f as1, ?_, as1, rfl, hr⟩
      change (substL isThis (.var T.ITEM A) as >>= _) = _
      rw [hs]
      exact ite_ok_of (fun h => by subst h; rfl) (mkCall_congr htys.1 htys.2 hb.1)
  | .field t m n, hw, hb, hn, ht => by
      have hacc := access_and_ne hw.1 hw.2.1
      cases hm : m.isThisB with
      | false =>
        obtain ⟨m1, hs1, hr1⟩ := subst_fwd A m hw.2.2.1 hb hn (ht.resolve_left (by simp [hm]))
        have km := renM_keeps hr1 hm hw.2.2.1 hw.2.2.2
        refine ⟨.field t m1 n, ?_, m1, rfl, hr1⟩
        change (substE isThis (.var T.ITEM A) m >>= _) = _
        rw [hs1]
        exact ite_ok_of (fun h => by subst h; rfl) (mkField_stable hacc km.1 km.2)
      | true =>
        obtain ⟨t', rfl⟩ : ∃ t', m = .this t' := by cases m <;> simp [Expr.isThisB] at hm; exact ⟨_, rfl⟩
        refine ⟨.field t (.var T.MESSAGE A) n, ?_, _, rfl, _, rfl, sub_refl _⟩
        change mkFieldT t (.var T.ITEM A) n = _
        simp [mkFieldT, hacc, cast_item_message A, bind, Except.bind, pure, Except.pure]
  | .index t a i, ⟨hne, hsub, hwa, hwi, hsa, hsi⟩, hb, hn, ht => by
      obtain ⟨a1, hs1, hr1⟩ := subst_fwd A a hwa hb.1 hn.1 ht.1
      obtain ⟨i1, hs2, hr2⟩ := subst_fwd A i hwi hb.2 hn.2 ht.2
      have ka := renM_keeps hr1 (noBare_notThis ht.1) hwa hsa
      have ki := renM_keeps hr2 (noBare_notThis ht.2) hwi hsi
      refine ⟨.index t a1 i1, ?_, a1, i1, rfl, hr1, hr2⟩
      change (substE isThis (.var T.ITEM A) a >>= _) = _
      rw [hs1, hs2]
      exact ite_ok_of (fun h => by obtain ⟨rfl, rfl⟩ := h; rfl) (mkIndex_stable (access_and_ne hne hsub) ka.1 ki.1 ka.2 ki.2)
theorem substL_fwd (A : String) : ∀ (es : ExprList), WTList es → RebuildableL es → NoNameL A es → NoBareThisL es →
    ∃ es1, substL isThis (.var T.ITEM A) es = .ok es1 ∧ RenML A es es1
  | .nil, _, _, _, _ => ⟨.nil, rfl, rfl⟩
  | .cons e es, hw, hb, hn, ht => by
      obtain ⟨e1, hs1, hr1⟩ := subst_fwd A e hw.1 hb.1 hn.1 ht.1
      obtain ⟨es1, hs2, hr2⟩ := substL_fwd A es hw.2 hb.2 hn.2 ht.2
      refine ⟨.cons e1 es1, ?_, e1, es1, rfl, hr1, hr2⟩
      change (substE isThis (.var T.ITEM A) e >>= _) = _
      rw [hs1, hs2]
      rfl
end

/-- **C13**: `replace_this_with_var(e, A)` is total on such trees and returns the renaming of `this` to `@A` -/
theorem replaceThisWithVar_ren (A : String) (e : Expr) (hw : WT e) (hb : Rebuildable e) (hn : NoName A e) (ht : NoBareThis e) :
    ∃ e1, replaceThisWithVarE e A = .ok e1 ∧ Ren A e e1 := by
  obtain ⟨e1, hs, hr⟩ := subst_fwd A e hw hb hn ht
  exact ⟨e1, by unfold replaceThisWithVarE Expr.replaceSelf; exact hs, RenM.ren A e e1 hr⟩

/-- **C13: the two replacements undo each other when the alias is not otherwise used**: for a well-typed tree whose quantifiers and
    calls pass their constructors, that does not use the name `A`, and where the current message occurs only under field accesses,
    `replace_var_with_this(replace_this_with_var(e, A), A) = e`, both calls succeeding -/
theorem replace_roundtrip (A : String) (e : Expr) (hw : WT e) (hb : Rebuildable e) (hn : NoName A e) (ht : NoBareThis e) :
    ∃ e1, replaceThisWithVarE e A = .ok e1 ∧ replaceVarWithThisE e1 A = .ok e := by
  obtain ⟨e1, hs, hr⟩ := replaceThisWithVar_ren A e hw hb hn ht
  exact ⟨e1, hs, replaceVarWithThis_undoes A e e1 hr hw hb hn⟩

-- non-vacuity: `x > 0` with `x` an own field
example : ∃ e1, replaceThisWithVarE (.bin T.BOOL ">" (.field T.NUMBER (.this T.MESSAGE) "x") (.lit T.NUMBER "0" (.int 0))) "A" = .ok e1 ∧
    replaceVarWithThisE e1 "A" = .ok (.bin T.BOOL ">" (.field T.NUMBER (.this T.MESSAGE) "x") (.lit T.NUMBER "0" (.int 0))) := by
  apply replace_roundtrip
  · refine ⟨⟨">", T.NUMBER, T.NUMBER, T.BOOL, true, false, false⟩, by decide, rfl, ?_, ?_, by decide, by decide, by decide⟩
    · exact ⟨by decide, by decide, rfl, by decide⟩
    · rfl
  · exact ⟨trivial, trivial⟩
  · exact ⟨trivial, trivial⟩
  · exact ⟨Or.inl rfl, trivial⟩

end Hpl
