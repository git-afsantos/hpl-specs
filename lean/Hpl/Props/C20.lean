import Hpl.Model.DataType
/-!
# C20 — type-set narrowing is set intersection

The model is `Hpl.DataType.{cast,canBe,union}` in
`Hpl/Model/DataType.lean`, tied to `hpl.types.DataType` by the exhaustive 128×128 (quick) / 128³ (thorough)
correspondence stream of `harness/streams/c20.py`. The laws are proved for *every* natural-number mask
(width-independent), so they cover the seven-bit universe of the code and any extension of it.
-/
namespace Hpl
namespace DataType

/-! ## generated-table obligations (G1): re-checked against the values extracted from /repo on every run -/

/-- the seven base members are the seven distinct single-bit masks (in whatever order the enumeration assigns them) -/
theorem G1_base_members_are_bits :
    ([Gen.BOOL, Gen.NUMBER, Gen.STRING, Gen.ARRAY, Gen.RANGE, Gen.SET, Gen.MESSAGE].all (fun t => (List.range 7).any (fun i => t == 2 ^ i))) = true ∧
    [Gen.BOOL, Gen.NUMBER, Gen.STRING, Gen.ARRAY, Gen.RANGE, Gen.SET, Gen.MESSAGE].Nodup := by decide

/-- the derived members are the stated unions / the empty intersection -/
theorem G1_derived_members :
    Gen.PRIMITIVE = Gen.BOOL ||| Gen.NUMBER ||| Gen.STRING ∧ Gen.ITEM = Gen.PRIMITIVE ||| Gen.MESSAGE ∧
    Gen.COMPOUND = Gen.ARRAY ||| Gen.RANGE ||| Gen.SET ∧ Gen.ANY = Gen.ITEM ||| Gen.COMPOUND ∧ Gen.NONE = 0 := by decide

/-- the exported tuples list base members only -/
theorem G1_exported_tuples :
    Gen.BASE_TYPES = [Gen.BOOL, Gen.NUMBER, Gen.STRING, Gen.ARRAY, Gen.SET, Gen.MESSAGE] ∧
    Gen.PRIMITIVE_TYPES = [Gen.BOOL, Gen.NUMBER, Gen.STRING] := by decide

/-! ## helper facts about membership -/

theorem zero_iff_no_mem (a : DataType) : a = 0 ↔ ∀ i, ¬ mem i a := by
  constructor
  · intro h i; simp [mem, h]
  · intro h; apply Nat.eq_of_testBit_eq; intro i
    have := h i; simp only [mem, Bool.not_eq_true] at this; simp [this]

theorem mem_and (i : Nat) (a b : DataType) : mem i (a &&& b) ↔ mem i a ∧ mem i b := by
  simp [mem, Nat.testBit_and]
theorem mem_or (i : Nat) (a b : DataType) : mem i (a ||| b) ↔ mem i a ∨ mem i b := by
  simp [mem, Nat.testBit_or]

theorem sub_iff (a b : DataType) : sub a b ↔ ∀ i, mem i a → mem i b := by
  unfold sub
  constructor
  · intro h i hi; rw [← h] at hi; exact ((mem_and i a b).1 hi).2
  · intro h; apply Nat.eq_of_testBit_eq; intro i
    rw [Nat.testBit_and]
    cases ha : a.testBit i with
    | false => simp
    | true => simp [show b.testBit i = true from h i ha]

/-- narrowing succeeds exactly when the sets share a base type, and yields exactly the shared ones -/
theorem cast_ok_iff (a t c : DataType) : cast a t = .ok c ↔ c = a &&& t ∧ c ≠ 0 := by
  unfold cast; split
  · rename_i h; constructor
    · intro h'; cases h'
    · rintro ⟨rfl, hne⟩; exact absurd h hne
  · rename_i h; constructor
    · intro h'; cases h'; exact ⟨rfl, h⟩
    · rintro ⟨rfl, _⟩; rfl

/-- element-wise reading: the result contains base type `i` iff both arguments do -/
theorem cast_ok_mem {a t c : DataType} (h : cast a t = .ok c) (i : Nat) : mem i c ↔ mem i a ∧ mem i t := by
  obtain ⟨rfl, _⟩ := (cast_ok_iff a t c).1 h; exact mem_and i a t

/-- a type error is raised exactly when no base type is shared -/
theorem cast_err_iff (a t : DataType) : cast a t = .error .typeError ↔ ∀ i, ¬ (mem i a ∧ mem i t) := by
  unfold cast; split
  · rename_i h; simp only [true_iff]
    intro i hi; exact (zero_iff_no_mem _).1 h i ((mem_and i a t).2 hi)
  · rename_i h; simp only [reduceCtorEq, false_iff]
    intro hall; apply h; apply (zero_iff_no_mem _).2
    intro i hi; exact hall i ((mem_and i a t).1 hi)

theorem cast_total (a t : DataType) : (∃ c, cast a t = .ok c) ∨ cast a t = .error .typeError := by
  unfold cast; split <;> simp

theorem cast_idem (a : DataType) (h : a ≠ 0) : cast a a = .ok a := by
  simp [cast, Nat.and_self, h]

theorem cast_comm (a t : DataType) : cast a t = cast t a := by
  simp [cast, Nat.and_comm]

/-- associativity in the error monad -/
theorem cast_assoc (a t u : DataType) :
    (cast a t >>= fun c => cast c u) = (cast t u >>= fun c => cast a c) := by
  simp only [cast, bind, Except.bind]
  by_cases h1 : a &&& t = 0
  · have : a &&& (t &&& u) = 0 := by rw [← Nat.and_assoc, h1]; simp
    by_cases h2 : t &&& u = 0 <;> simp [h1, h2, this]
  · by_cases h2 : t &&& u = 0
    · have : a &&& t &&& u = 0 := by rw [Nat.and_assoc, h2]; simp
      simp [h1, h2, this]
    · simp [h1, h2, Nat.and_assoc]

theorem cast_sub_left {a t c : DataType} (h : cast a t = .ok c) : sub c a := by
  obtain ⟨rfl, _⟩ := (cast_ok_iff a t c).1 h
  unfold sub; rw [Nat.and_comm (a &&& t) a, ← Nat.and_assoc, Nat.and_self]
theorem cast_sub_right {a t c : DataType} (h : cast a t = .ok c) : sub c t := by
  rw [cast_comm] at h; exact cast_sub_left h

/-- narrowing twice by the same set changes nothing -/
theorem cast_cast {a t c : DataType} (h : cast a t = .ok c) : cast c t = .ok c := by
  obtain ⟨rfl, hne⟩ := (cast_ok_iff a t _).1 h
  have : a &&& t &&& t = a &&& t := by rw [Nat.and_assoc, Nat.and_self]
  simp [cast, this, hne]

/-- monotone in both arguments -/
theorem cast_mono {a a' t t' c : DataType} (ha : sub a a') (ht : sub t t') (h : cast a t = .ok c) :
    ∃ c', cast a' t' = .ok c' ∧ sub c c' := by
  obtain ⟨rfl, hne⟩ := (cast_ok_iff a t _).1 h
  have hsub : sub (a &&& t) (a' &&& t') := by
    rw [sub_iff] at *
    intro i hi
    have := (mem_and i a t).1 hi
    exact (mem_and i a' t').2 ⟨ha i this.1, ht i this.2⟩
  refine ⟨a' &&& t', ?_, hsub⟩
  apply (cast_ok_iff _ _ _).2 ⟨rfl, ?_⟩
  intro h0
  apply hne
  unfold sub at hsub; rw [h0] at hsub; simpa using hsub.symm

/-- `can_be` is non-empty intersection -/
theorem canBe_iff (a t : DataType) : canBe a t = true ↔ ∃ i, mem i a ∧ mem i t := by
  unfold canBe
  simp only [bne_iff_ne, ne_eq]
  constructor
  · intro h
    apply Classical.byContradiction; intro hn
    apply h; apply (zero_iff_no_mem _).2
    intro i hi; exact hn ⟨i, (mem_and i a t).1 hi⟩
  · rintro ⟨i, hi⟩ h0
    exact (zero_iff_no_mem _).1 h0 i ((mem_and i a t).2 hi)

theorem canBe_iff_cast_ok (a t : DataType) : canBe a t = true ↔ ∃ c, cast a t = .ok c := by
  unfold canBe cast; split <;> simp_all

theorem foldl_or_mem (i : Nat) (ts : List DataType) (acc : DataType) :
    mem i (ts.foldl (· ||| ·) acc) ↔ mem i acc ∨ ∃ t ∈ ts, mem i t := by
  induction ts generalizing acc with
  | nil => simp
  | cons t ts ih => simp [ih, mem_or, or_assoc]

/-- `union` is the least upper bound -/
theorem mem_union (i : Nat) (ts : List DataType) : mem i (union ts) ↔ ∃ t ∈ ts, mem i t := by
  rw [union, foldl_or_mem]
  have : Gen.NONE = 0 := G1_derived_members.2.2.2.2
  simp [this, mem]
theorem union_upper (ts : List DataType) (t : DataType) (h : t ∈ ts) : sub t (union ts) := by
  rw [sub_iff]; intro i hi; exact (mem_union i ts).2 ⟨t, h, hi⟩
theorem union_least (ts : List DataType) (u : DataType) (h : ∀ t ∈ ts, sub t u) : sub (union ts) u := by
  rw [sub_iff]; intro i hi
  obtain ⟨t, ht, hit⟩ := (mem_union i ts).1 hi
  exact (sub_iff t u).1 (h t ht) i hit

/-- closure: the universe of the code's type sets (masks below `ANY + 1`) is preserved -/
theorem cast_closed {a t c : DataType} (ha : a ≤ Gen.ANY) (h : cast a t = .ok c) : c ≤ Gen.ANY := by
  obtain ⟨rfl, _⟩ := (cast_ok_iff a t _).1 h
  exact Nat.le_trans Nat.and_le_left ha

-- the model computed on members of the generated table: a successful narrowing, a type error, `can_be`, `union`
example : cast Gen.PRIMITIVE (Gen.NUMBER ||| Gen.ARRAY) = .ok Gen.NUMBER := by rfl
example : cast Gen.BOOL Gen.NUMBER = .error .typeError := by rfl
example : canBe Gen.ITEM Gen.MESSAGE = true ∧ canBe Gen.COMPOUND Gen.PRIMITIVE = false := by decide
example : union [Gen.BOOL, Gen.STRING] = (Gen.BOOL ||| Gen.STRING) := by decide

end DataType
end Hpl
