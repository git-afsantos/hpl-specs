import Hpl.Props.C08e
import Hpl.Props.C13
/-!
# C08 — the folding of `max` / `min` preserves meaning; the conditions on the oracle

`max` / `min` of a collection or of several arguments is the extremal element of the numbers the semantics sees; the simplifier
replaces the number literals among the operands (when there are at least two) by their extremal one and keeps the other operands.
Both are characterised by "is a member and bounds every member", so the order in which the operands are visited, repeated members
and the grouping do not matter.  The second half derives the folding of `gcd` and `str` from conditions on the oracle alone.
-/
namespace Hpl

/-- `listMax`, and `listMin` with the order reversed -/
theorem foldExt_spec {lt le : Rat → Rat → Prop} [DecidableRel lt] (hrefl : ∀ a, le a a)
    (htrans : ∀ {a b c}, le a b → le b c → le a c) (hlt : ∀ {a b}, lt a b → le a b) (hnlt : ∀ {a b}, ¬ lt a b → le b a) :
    ∀ (l : List Rat) (a : Rat),
      (l.foldl (fun a b => if lt a b then b else a) a) ∈ a :: l ∧ ∀ y ∈ a :: l, le y (l.foldl (fun a b => if lt a b then b else a) a)
  | [], a => ⟨List.mem_cons_self .., fun y hy => by cases List.mem_singleton.1 hy; exact hrefl a⟩
  | b :: l, a => by
      rw [List.foldl_cons]
      obtain ⟨hm, hb⟩ := foldExt_spec hrefl htrans hlt hnlt l (if lt a b then b else a)
      have hstep : le a (if lt a b then b else a) ∧ le b (if lt a b then b else a) ∧
          (if lt a b then b else a) ∈ a :: b :: l := by
        by_cases h : lt a b
        · rw [if_pos h]; exact ⟨hlt h, hrefl b, List.mem_cons_of_mem _ (List.mem_cons_self ..)⟩
        · rw [if_neg h]; exact ⟨hrefl a, hnlt h, List.mem_cons_self ..⟩
      have hs := hb _ (List.mem_cons_self ..)
      exact ⟨(List.mem_cons.1 hm).elim (fun h => by rw [h]; exact hstep.2.2) fun h => List.mem_cons_of_mem _ (List.mem_cons_of_mem _ h),
        List.forall_mem_cons.2 ⟨htrans hstep.1 hs, List.forall_mem_cons.2 ⟨htrans hstep.2.1 hs,
          fun y hy => hb y (List.mem_cons_of_mem _ hy)⟩⟩⟩

theorem foldMax_spec (l : List Rat) (a : Rat) :
    (l.foldl (fun a b => if a < b then b else a) a) ∈ a :: l ∧ ∀ y ∈ a :: l, y ≤ l.foldl (fun a b => if a < b then b else a) a :=
  foldExt_spec (lt := fun a b => a < b) (le := fun a b => a ≤ b) (fun _ => Rat.le_refl) Rat.le_trans Rat.le_of_lt Rat.not_lt.1 l a

theorem foldMin_spec (l : List Rat) (a : Rat) :
    (l.foldl (fun a b => if b < a then b else a) a) ∈ a :: l ∧ ∀ y ∈ a :: l, l.foldl (fun a b => if b < a then b else a) a ≤ y :=
  foldExt_spec (lt := fun a b => b < a) (le := fun a b => b ≤ a) (fun _ => Rat.le_refl) (fun h1 h2 => Rat.le_trans h2 h1) Rat.le_of_lt
    Rat.not_lt.1 l a

/-- the extremal element, for `max` (`isMax`) or `min` -/
def extremum (isMax : Bool) (l : List Rat) : EM Rat := if isMax then listMax l else listMin l

/-- `m` is the extremum of the (non-empty) list: a member bounding every member -/
def IsExt (isMax : Bool) (m : Rat) (l : List Rat) : Prop := m ∈ l ∧ ∀ y ∈ l, (if isMax then y ≤ m else m ≤ y)

theorem extremum_spec {isMax : Bool} {l : List Rat} {m : Rat} (h : extremum isMax l = .ok m) : IsExt isMax m l := by
  cases l with
  | nil => cases isMax <;> cases h
  | cons a l =>
    cases isMax <;> cases h
    · exact foldMin_spec l a
    · exact foldMax_spec l a

/-- two extrema, each a member of the other's list, are equal -/
theorem isExt_eq {isMax : Bool} {m m' : Rat} {l l' : List Rat} (h : IsExt isMax m l) (h' : IsExt isMax m' l') (hm : m ∈ l') (hm' : m' ∈ l) :
    m = m' := by
  have e1 := h.2 m' hm'
  have e2 := h'.2 m hm
  cases isMax
  · exact Rat.le_antisymm e1 e2
  · exact Rat.le_antisymm e2 e1

theorem isExt_unique {isMax : Bool} {m m' : Rat} {l : List Rat} (h : IsExt isMax m l) (h' : IsExt isMax m' l) : m = m' :=
  isExt_eq h h' h.1 h'.1

theorem extremum_of_isExt {isMax : Bool} {l : List Rat} {m : Rat} (h : IsExt isMax m l) : extremum isMax l = .ok m := by
  cases hm : extremum isMax l with
  | ok m' => rw [isExt_unique h (extremum_spec hm)]
  | error e =>
    cases l with
    | nil => exact nomatch h.1
    | cons a l' => cases isMax <;> cases hm

/-- two lists with the same members have the same extremum -/
theorem isExt_congr {isMax : Bool} {m : Rat} {l l' : List Rat} (h : IsExt isMax m l) (h1 : ∀ x ∈ l, x ∈ l') (h2 : ∀ x ∈ l', x ∈ l) :
    IsExt isMax m l' := ⟨h1 m h.1, fun y hy => h.2 y (h2 y hy)⟩

theorem pyLt_fin {a b : LitVal} {x y : Rat} (ha : a.toRat? = some x) (hb : b.toRat? = some y) : pyLt a b = .ok (decide (x < y)) := by
  cases a <;> first | (cases ha; done) | skip
  all_goals cases b <;> first | (cases hb; done) | (cases ha; cases hb; rfl)

/-- `maxVal`, and `minVal` with the order reversed, against the fold of the semantics over the values -/
theorem extFold {cmp : LitVal → LitVal → M Bool} {lt : Rat → Rat → Prop} [DecidableRel lt]
    (hcmp : ∀ {a b : LitVal}, a.toRat? = some (ratOf a) → b.toRat? = some (ratOf b) → cmp a b = .ok (decide (lt (ratOf a) (ratOf b)))) :
    ∀ (ls : List LitVal) (acc m : LitVal), (∀ d ∈ acc :: ls, d.toRat? = some (ratOf d)) →
      ls.foldlM (fun acc x => do let c ← cmp acc x; pure (if c then x else acc)) acc = .ok m →
      m ∈ acc :: ls ∧ ratOf m = (ls.map ratOf).foldl (fun a b => if lt a b then b else a) (ratOf acc)
  | [], acc, m, _, h => by
      cases h
      exact ⟨List.mem_cons_self .., rfl⟩
  | d :: ls, acc, m, hf, h => by
      rw [List.foldlM_cons] at h
      obtain ⟨acc', h1, h2⟩ := bind_ok h
      rw [hcmp (hf acc (List.mem_cons_self ..)) (hf d (List.mem_cons_of_mem _ (List.mem_cons_self ..)))] at h1
      cases h1
      have hacc' : (if decide (lt (ratOf acc) (ratOf d)) = true then d else acc) ∈ acc :: d :: ls := by
        split
        · exact List.mem_cons_of_mem _ (List.mem_cons_self ..)
        · exact List.mem_cons_self ..
      obtain ⟨hm, hr⟩ := extFold hcmp ls _ m (List.forall_mem_cons.2 ⟨hf _ hacc',
        fun x hx => hf x (List.mem_cons_of_mem _ (List.mem_cons_of_mem _ hx))⟩) h2
      refine ⟨(List.mem_cons.1 hm).elim (fun h => by rw [h]; exact hacc') fun h => List.mem_cons_of_mem _ (List.mem_cons_of_mem _ h), ?_⟩
      · rw [hr, List.map_cons, List.foldl_cons]
        congr 1
        by_cases hc : lt (ratOf acc) (ratOf d) <;> simp [hc]

/-- the literal the simplifier picks among number literals -/
def extVal (isMax : Bool) (lits : List LitVal) : M LitVal := if isMax then maxVal lits else minVal lits

theorem extVal_spec {isMax : Bool} {lits : List LitVal} {m : LitVal} (hf : ∀ d ∈ lits, d.toRat? = some (ratOf d))
    (h : extVal isMax lits = .ok m) : m ∈ lits ∧ IsExt isMax (ratOf m) (lits.map ratOf) := by
  cases lits with
  | nil => cases isMax <;> cases h
  | cons v rest =>
    cases isMax with
    | true =>
      obtain ⟨hm, hr⟩ := extFold (cmp := pyLt) (lt := fun a b => a < b) pyLt_fin rest v m hf h
      refine ⟨hm, ?_⟩
      rw [hr]
      exact foldMax_spec (rest.map ratOf) (ratOf v)
    | false =>
      obtain ⟨hm, hr⟩ := extFold (cmp := fun a b => pyLt b a) (lt := fun a b => b < a) (fun ha hb => pyLt_fin hb ha) rest v m hf h
      refine ⟨hm, ?_⟩
      rw [hr]
      exact foldMin_spec (rest.map ratOf) (ratOf v)

variable (opq : Opaque)

theorem splitLits_eq : ∀ (values : List Expr),
    splitLits values = (values.filter (fun e => (numLit? e).isNone), values.filterMap numLit?)
  | [] => rfl
  | e :: es => by
      show (match numLit? e with | some v => ((splitLits es).1, v :: (splitLits es).2) | none => (e :: (splitLits es).1, (splitLits es).2)) = _
      rw [splitLits_eq es]
      cases hn : numLit? e <;> simp [List.filter_cons, List.filterMap_cons, hn]

theorem splitLits_parts (values : List Expr) :
    (∀ e ∈ (splitLits values).1, e ∈ values) ∧
    (∀ l ∈ (splitLits values).2, ∃ e ∈ values, numLit? e = some l) ∧
    (∀ e ∈ values, e ∈ (splitLits values).1 ∨ ∃ l ∈ (splitLits values).2, numLit? e = some l) := by
  rw [splitLits_eq]
  refine ⟨fun e he => (List.mem_filter.1 he).1, fun l hl => List.mem_filterMap.1 hl, fun e he => ?_⟩
  cases hn : numLit? e with
  | none => exact .inl (List.mem_filter.2 ⟨he, by rw [hn]; rfl⟩)
  | some l => exact .inr ⟨l, List.mem_filterMap.2 ⟨e, he, hn⟩, rfl⟩

/-- the number an expression evaluates to (junk where it does not evaluate to one) -/
def valOf (ρ : Env) (e : Expr) : Rat := match eval opq ρ e with | .ok (.prim (.num q)) => q | _ => 0

theorem valOf_eq {ρ : Env} {e : Expr} {q : Rat} (h : eval opq ρ e = .ok (Value.num q)) : valOf opq ρ e = q := by
  rw [valOf, h]
  rfl

theorem evalList_nums {ρ : Env} : ∀ (es : List Expr), (∀ e ∈ es, eval opq ρ e = .ok (Value.num (valOf opq ρ e))) →
    evalList opq ρ (ExprList.ofList es) = .ok (es.map (fun e => Value.num (valOf opq ρ e)))
  | [], _ => rfl
  | e :: es, h => by
      show (do let v ← eval opq ρ e; let vs ← evalList opq ρ (ExprList.ofList es); pure (v :: vs)) = _
      rw [h e (List.mem_cons_self ..), evalList_nums es (fun x hx => h x (List.mem_cons_of_mem _ hx))]
      rfl

theorem mapM_asNum_nums : ∀ (qs : List Rat), (qs.map Value.num).mapM asNum = .ok qs
  | [] => rfl
  | q :: qs => by simp only [List.map_cons, List.mapM_cons, bind, Except.bind, mapM_asNum_nums qs, pure, Except.pure]; rfl

theorem applyFun_ext_multi (isMax : Bool) (a b : Value) (rest : List Value) :
    applyFun opq (if isMax then "max" else "min") (a :: b :: rest) =
      (do let qs ← (a :: b :: rest).mapM asNum; let m ← extremum isMax qs; pure (Value.num m)) := by
  cases isMax <;> rfl

/-- a number literal that evaluates to a number is a finite one, and that number -/
theorem numLit_fin {ρ : Env} {e : Expr} {l : LitVal} {q : Rat} (hel : numLit? e = some l) (hq : eval opq ρ e = .ok (Value.num q)) :
    l.toRat? = some (ratOf l) ∧ ratOf l = q := by
  obtain ⟨t, k, rfl⟩ := numLit_some hel
  rcases litValue_num hq with ⟨rfl, hd⟩ | rfl
  · have : (q.num : Rat) = q := Rat.ext (by simp) (by simp [hd])
    exact ⟨by simp only [LitVal.toRat?, ratOf, litPrim, this], by simp only [ratOf, litPrim, this]⟩
  · exact ⟨rfl, rfl⟩

/-- **the folding step of `max` / `min` on a list of operands**: whatever it returns has the value of the extremum of the operands -/
theorem foldMinMax_sound {isMax : Bool} {ρ : Env} {call : Expr} {values : List Expr} {r : Expr} {m0 : Rat} {qs : List Rat}
    (H1 : ∀ e ∈ values, ∃ q ∈ qs, eval opq ρ e = .ok (Value.num q))
    (H2 : ∀ q ∈ qs, ∃ e ∈ values, eval opq ρ e = .ok (Value.num q))
    (H3 : IsExt isMax m0 qs) (hcall : eval opq ρ call = .ok (Value.num m0))
    (h : foldMinMax call (if isMax then "max" else "min") isMax values = .ok r) : eval opq ρ r = .ok (Value.num m0) := by
  unfold foldMinMax at h
  obtain ⟨S1, S2, S3⟩ := splitLits_parts values
  generalize splitLits values = sp at h S1 S2 S3
  obtain ⟨vars, lits⟩ := sp
  rcases ite_eq h with ⟨-, h⟩ | ⟨-, h⟩
  · cases h
    exact hcall
  obtain ⟨m, hm, h⟩ := bind_ok h
  obtain ⟨n, hn, h⟩ := bind_ok h
  -- the literals among the operands are finite numbers that the semantics sees
  have hlit : ∀ l ∈ lits, l.toRat? = some (ratOf l) ∧ ratOf l ∈ qs := by
    intro l hl
    obtain ⟨e, he, hel⟩ := S2 l hl
    obtain ⟨q, hq, hev⟩ := H1 e he
    obtain ⟨h1, h2⟩ := numLit_fin opq hel hev
    exact ⟨h1, h2 ▸ hq⟩
  have hsrc : ∀ q ∈ qs, (∃ e ∈ vars, eval opq ρ e = .ok (Value.num q)) ∨ ∃ l ∈ lits, ratOf l = q := by
    intro q hq
    obtain ⟨e, he, hev⟩ := H2 q hq
    rcases S3 e he with hv | ⟨l, hl, hel⟩
    · exact .inl ⟨e, hv, hev⟩
    · exact .inr ⟨l, hl, (numLit_fin opq hel hev).2⟩
  obtain ⟨hml, hmext⟩ := extVal_spec (isMax := isMax) (fun d hd => (hlit d hd).1) (by cases isMax <;> exact hm)
  have hmq := (hlit m hml).2
  have hneval : eval opq ρ n = .ok (Value.num (ratOf m)) := by
    rw [litNumber_eval opq hn ρ]
    obtain ⟨e, he, hel⟩ := S2 m hml
    obtain ⟨q, -, hev⟩ := H1 e he
    obtain ⟨t, k, rfl⟩ := numLit_some hel
    rw [(numLit_fin opq hel hev).2]
    exact hev
  have hanti : ∀ l ∈ lits, ratOf l = m0 → m0 = ratOf m := fun l hl hlm =>
    isExt_eq H3 hmext (hlm ▸ List.mem_map.2 ⟨l, hl, rfl⟩) hmq
  rcases ite_eq h with ⟨hvars, h⟩ | ⟨hvars, h⟩
  · -- all operands are literals
    cases h
    cases List.isEmpty_iff.1 hvars
    rcases hsrc m0 H3.1 with ⟨e, he, -⟩ | ⟨l, hl, hlm⟩
    · cases he
    · rw [hanti l hl hlm]
      exact hneval
  · -- some operands remain: the call is rebuilt around them and the extremal literal
    rw [mkCall_eval opq h ρ]
    have hvals : ∀ e ∈ vars ++ [n], eval opq ρ e = .ok (Value.num (valOf opq ρ e)) := by
      intro e he
      rcases List.mem_append.1 he with hv | hv
      · obtain ⟨q, _, hq⟩ := H1 e (S1 e hv)
        rw [valOf_eq opq hq]; exact hq
      · cases List.mem_singleton.1 hv
        rw [valOf_eq opq hneval]; exact hneval
    have hext' : IsExt isMax m0 ((vars ++ [n]).map (valOf opq ρ)) := by
      refine ⟨?_, fun y hy => ?_⟩
      · rcases hsrc m0 H3.1 with ⟨e, he, hev⟩ | ⟨l, hl, hlm⟩
        · exact List.mem_map.2 ⟨e, List.mem_append_left _ he, valOf_eq opq hev⟩
        · exact List.mem_map.2 ⟨n, List.mem_append_right _ (List.mem_singleton.2 rfl), by rw [valOf_eq opq hneval, hanti l hl hlm]⟩
      · obtain ⟨e, he, rfl⟩ := List.mem_map.1 hy
        rcases List.mem_append.1 he with hv | hv
        · obtain ⟨q, hq, hev⟩ := H1 e (S1 e hv)
          rw [valOf_eq opq hev]; exact H3.2 q hq
        · cases List.mem_singleton.1 hv
          rw [valOf_eq opq hneval]; exact H3.2 _ hmq
    -- at least two operands
    cases vars with
    | nil => exact absurd rfl hvars
    | cons v0 vars' =>
      show (evalList opq ρ _ >>= _) = _
      rw [evalList_nums opq _ hvals]
      obtain ⟨a, b, rest, hab⟩ : ∃ a b rest, ((v0 :: vars') ++ [n]).map (fun e => Value.num (valOf opq ρ e)) = a :: b :: rest := by
        cases vars' <;> exact ⟨_, _, _, rfl⟩
      show applyFun opq _ _ = _
      rw [hab, applyFun_ext_multi, ← hab,
        show ((v0 :: vars') ++ [n]).map (fun e => Value.num (valOf opq ρ e)) = (((v0 :: vars') ++ [n]).map (valOf opq ρ)).map Value.num from
          (List.map_map (g := Value.num) (f := valOf opq ρ)).symm, mapM_asNum_nums]
      show (extremum isMax _ >>= _) = _
      rw [extremum_of_isExt hext']
      rfl

theorem ext_one_arg {isMax : Bool} {ρ : Env} {t : DataType} {a0 : Expr} {v : Value}
    (hv : eval opq ρ (.call t (if isMax then "max" else "min") (.cons a0 .nil)) = .ok v) :
    ∃ x qs m, eval opq ρ a0 = .ok x ∧ numsOf x = .ok qs ∧ extremum isMax qs = .ok m ∧ v = Value.num m := by
  obtain ⟨xs, hxs, happ⟩ := call_unfold opq hv
  obtain ⟨x, xs', hx, hnil, rfl⟩ := (evalList_cons_ok opq).1 hxs
  cases hnil
  have hu : applyFun opq (if isMax then "max" else "min") [x] =
      (do let qs ← numsOf x; let m ← extremum isMax qs; pure (Value.num m)) := by cases isMax <;> rfl
  rw [hu] at happ
  obtain ⟨qs, hqs, happ⟩ := bind_ok happ
  obtain ⟨m, hm, happ⟩ := bind_ok happ
  exact ⟨x, qs, m, hx, hqs, hm, (Except.ok.inj happ).symm⟩

/-- operands that evaluate to numbers: the numbers are their values, in order -/
theorem evalList_asNum_vals {ρ : Env} : ∀ (es : List Expr) (xs : List Value) (qs : List Rat),
    evalList opq ρ (ExprList.ofList es) = .ok xs → xs.mapM asNum = .ok qs →
    qs = es.map (valOf opq ρ) ∧ ∀ e ∈ es, eval opq ρ e = .ok (Value.num (valOf opq ρ e))
  | [], xs, qs, h1, h2 => by
      cases h1
      cases h2
      exact ⟨rfl, fun _ h => nomatch h⟩
  | e :: es, xs, qs, h1, h2 => by
      obtain ⟨x, xs', hx, hxs', rfl⟩ := (evalList_cons_ok opq).1 h1
      rw [List.mapM_cons] at h2
      obtain ⟨q, hq, h2⟩ := bind_ok h2
      obtain ⟨qs', hqs', h2⟩ := bind_ok h2
      cases h2
      cases asNum_ok.1 hq
      obtain ⟨ih1, ih2⟩ := evalList_asNum_vals es xs' qs' hxs' hqs'
      rw [ih1, List.map_cons, valOf_eq opq hx]
      exact ⟨rfl, List.forall_mem_cons.2 ⟨by rw [valOf_eq opq hx]; exact hx, ih2⟩⟩

/-- `max` / `min` of several arguments -/
theorem fold_ext_multi {isMax : Bool} {ρ : Env} {t : DataType} {args : ExprList} {r : Expr} {v : Value}
    (hc : OracleClosed opq) (hv : eval opq ρ (.call t (if isMax then "max" else "min") args) = .ok v)
    (hargs : ∀ a0, args ≠ .cons a0 .nil)
    (h : foldMinMax (.call t (if isMax then "max" else "min") args) (if isMax then "max" else "min") isMax args.toList = .ok r) :
    eval opq ρ r = .ok v := by
  obtain ⟨xs, hxs, happ⟩ := call_unfold opq hv
  match args, hargs, hxs, hv, h with
  | .nil, _, hxs, _, _ =>
    cases hxs
    cases isMax <;> exact absurd happ (hc _ (by decide) _ _)
  | .cons a0 .nil, hargs, _, _, _ => exact absurd rfl (hargs a0)
  | .cons a0 (.cons a1 rest), _, hxs, hv, h =>
    obtain ⟨x0, xs', h0, hxs', rfl⟩ := (evalList_cons_ok opq).1 hxs
    obtain ⟨x1, xs'', h1, hxs'', rfl⟩ := (evalList_cons_ok opq).1 hxs'
    rw [applyFun_ext_multi] at happ
    obtain ⟨qs, hqs, happ⟩ := bind_ok happ
    obtain ⟨m, hm, happ⟩ := bind_ok happ
    cases happ
    rw [← ExprList.ofList_toList (.cons a0 (.cons a1 rest))] at hxs
    obtain ⟨rfl, H⟩ := evalList_asNum_vals opq _ _ _ hxs hqs
    refine foldMinMax_sound opq (fun e he => ⟨_, List.mem_map.2 ⟨e, he, rfl⟩, H e he⟩) (fun q hq => ?_) (extremum_spec hm) hv h
    obtain ⟨e, he, rfl⟩ := List.mem_map.1 hq
    exact ⟨e, he, H e he⟩

/-- `max` / `min` of a set literal -/
theorem fold_ext_set {isMax : Bool} {f : Nat} {ρ : Env} {t ts : DataType} {a0 : Expr} {vs : ExprList} {r : Expr} {v : Value}
    (ihS : ∀ e r', simp f e = .ok r' → Pres opq r' e)
    (hv : eval opq ρ (.call t (if isMax then "max" else "min") (.cons a0 .nil)) = .ok v)
    (ha : simp f a0 = .ok (.set ts vs))
    (h : foldMinMax (.call t (if isMax then "max" else "min") (.cons a0 .nil)) (if isMax then "max" else "min") isMax vs.toList = .ok r) :
    eval opq ρ r = .ok v := by
  obtain ⟨x, qs, m, h0, hqs, hm, rfl⟩ := ext_one_arg opq hv
  obtain ⟨hall, -, rfl⟩ := eval_set_prims opq (ihS _ _ ha ρ _ h0)
  rw [numsOf, elems, eraseDups_idem] at hqs
  have hdps := mapM_asNum_prims _ _ hqs
  refine foldMinMax_sound opq (fun e he => ?_) (fun q hq => ?_) (extremum_spec hm) hv h
  · have hmem : primOf opq ρ e ∈ (vs.toList.map (primOf opq ρ)).eraseDups := List.mem_eraseDups.2 (List.mem_map.2 ⟨e, he, rfl⟩)
    rw [hdps] at hmem
    obtain ⟨q, hq, hqe⟩ := List.mem_map.1 hmem
    exact ⟨q, hq, by rw [hall e he, ← hqe]; rfl⟩
  · have hmem : Prim.num q ∈ (vs.toList.map (primOf opq ρ)).eraseDups := by rw [hdps]; exact List.mem_map.2 ⟨q, hq, rfl⟩
    obtain ⟨e, he, hqe⟩ := List.mem_map.1 (mem_eraseDups hmem)
    exact ⟨e, he, by rw [hall e he, hqe]; rfl⟩

theorem mem_intRange {lb ub i : Int} : i ∈ intRange lb ub ↔ lb ≤ i ∧ i < ub := by
  simp only [intRange, List.mem_map, List.mem_range, Int.ofNat_eq_natCast]
  constructor
  · rintro ⟨n, hn, rfl⟩
    omega
  · rintro ⟨h1, h2⟩
    exact ⟨(i - lb).toNat, by omega, by omega⟩

/-- `max` / `min` of a range literal with literal bounds -/
theorem fold_ext_range {isMax : Bool} {f : Nat} {ρ : Env} {t tr : DataType} {a0 lo hi : Expr} {exLo exHi : Bool} {l hh : LitVal} {li hi' : Int}
    {r : Expr} {v : Value}
    (ihS : ∀ e r', simp f e = .ok r' → Pres opq r' e)
    (hv : eval opq ρ (.call t (if isMax then "max" else "min") (.cons a0 .nil)) = .ok v)
    (ha : simp f a0 = .ok (.range tr lo hi exLo exHi)) (hl : numLit? lo = some l) (hhi : numLit? hi = some hh)
    (hli : pyInt l = .ok li) (hhi' : pyInt hh = .ok hi')
    (hlt : li + (if exLo then 1 else 0) < hi' - (if exHi then 1 else 0))
    (hr : litNumber (.int (if isMax then hi' - (if exHi then 1 else 0) else li + (if exLo then 1 else 0))) = .ok r) : eval opq ρ r = .ok v := by
  obtain ⟨x, qs, m, h0, hqs, hm, rfl⟩ := ext_one_arg opq hv
  obtain ⟨es, hes, hqs⟩ := bind_ok hqs
  obtain ⟨li', hi'', hli', hhi'', rfl⟩ := eval_litRange opq (ihS _ _ ha ρ _ h0) hl hhi hes
  cases hli.symm.trans hli'
  cases hhi'.symm.trans hhi''
  rw [mapM_asNum_ints] at hqs
  cases hqs
  have hub : hi' + (if exHi then 0 else 1) = hi' - (if exHi then 1 else 0) + 1 := by cases exHi <;> simp
  rw [hub] at hm
  generalize li + (if exLo then 1 else 0) = lb at hlt hm hr
  generalize hi' - (if exHi then 1 else 0) = ub at hlt hm hr
  have hext : IsExt isMax ((if isMax then ub else lb : Int) : Rat) ((intRange lb (ub + 1)).map (fun (i : Int) => (i : Rat))) := by
    refine ⟨List.mem_map.2 ⟨_, mem_intRange.2 ?_, rfl⟩, fun y hy => ?_⟩
    · cases isMax
      · show lb ≤ lb ∧ lb < ub + 1
        omega
      · show lb ≤ ub ∧ ub < ub + 1
        omega
    · obtain ⟨i, hi, rfl⟩ := List.mem_map.1 hy
      have := mem_intRange.1 hi
      cases isMax
      · exact Rat.intCast_le_intCast.mpr this.1
      · exact Rat.intCast_le_intCast.mpr (show i ≤ ub by omega)
  rw [litNumber_eval opq hr ρ, isExt_unique (extremum_spec hm) hext]
  rfl

/-- **the folding of `max` / `min` is sound** -/
theorem ext_fold_sound (hc : OracleClosed opq) (isMax : Bool) (f : Nat) (t : DataType) (args : ExprList) (r : Expr)
    (ihS : ∀ e r', simp f e = .ok r' → Pres opq r' e)
    (h : simpCall (f + 1) (.call t (if isMax then "max" else "min") args) (if isMax then "max" else "min") args = .ok r) :
    Pres opq r (.call t (if isMax then "max" else "min") args) := by
  intro ρ v hv
  have hrule : ∀ call, simpCall (f + 1) call (if isMax then "max" else "min") args =
      minMaxRule f call (if isMax then "max" else "min") args := by
    cases isMax
    · exact fun call => simpCall_min f call args
    · exact fun call => simpCall_max f call args
  have hisMax : ((if isMax then "max" else "min") == "max") = isMax := by cases isMax <;> rfl
  rw [hrule] at h
  unfold minMaxRule at h
  rw [hisMax] at h
  match args, h, hv with
  | .nil, h, hv | .cons _ (.cons _ _), h, hv => exact fold_ext_multi opq hc hv (fun _ he => nomatch he) h
  | .cons a0 .nil, h, hv =>
    obtain ⟨a, ha, h⟩ := bind_ok h
    cases a with
    | range tr lo hi exLo exHi =>
      rcases litBounds_cases h with ⟨l, u, hl, hh, h⟩ | h
      · obtain ⟨li, hli, h⟩ := bind_ok h
        obtain ⟨hi', hhi', h⟩ := bind_ok h
        rcases ite_eq h with ⟨hlt, h⟩ | ⟨-, h⟩
        · exact fold_ext_range opq ihS hv ha hl hh hli hhi' hlt h
        · cases h
          exact hv
      · cases h
        exact hv
    | set ts vs => exact fold_ext_set opq ihS hv ha h
    | _ => cases h; exact hv

theorem max_fold_sound (hc : OracleClosed opq) (f : Nat) (t : DataType) (args : ExprList) (r : Expr)
    (ihS : ∀ e r', simp f e = .ok r' → Pres opq r' e)
    (h : simpCall (f + 1) (.call t "max" args) "max" args = .ok r) : Pres opq r (.call t "max" args) :=
  ext_fold_sound opq hc true f t args r ihS h

theorem min_fold_sound (hc : OracleClosed opq) (f : Nat) (t : DataType) (args : ExprList) (r : Expr)
    (ihS : ∀ e r', simp f e = .ok r' → Pres opq r' e)
    (h : simpCall (f + 1) (.call t "min" args) "min" args = .ok r) : Pres opq r (.call t "min" args) :=
  ext_fold_sound opq hc false f t args r ihS h

/-! ## `str` and `gcd`, which the reference semantics does not interpret -/

/-- `AggFoldSound` for `str` and `gcd` only, the two functions the reference semantics leaves to the oracle; the hypothesis of
    `simplify_sound_oracle`, proved from `GcdOracleOk` and `StrOracleOk` below -/
def AggFoldSoundOracle : Prop := ∀ (f : Nat) (t : DataType) (fn : String) (args : ExprList) (r : Expr),
  fn ∈ ["str", "gcd"] →
  (∀ e r', simp f e = .ok r' → Pres opq r' e) →
  simpCall (f + 1) (.call t fn args) fn args = .ok r → Pres opq r (.call t fn args)

theorem aggFold_of_oracle (hc : OracleClosed opq) (hrest : AggFoldSoundOracle opq) : AggFoldSound opq := by
  intro f t fn args r hm ihS h
  simp only [aggregateFuns, List.mem_cons, List.not_mem_nil, or_false] at hm
  rcases hm with rfl | rfl | rfl | rfl | rfl | rfl | rfl
  · exact hrest f t _ args r (by decide) ihS h
  · exact len_fold_sound opq hc f t args r ihS h
  · exact sum_fold_sound opq hc f t args r ihS h
  · exact prod_fold_sound opq hc f t args r ihS h
  · exact max_fold_sound opq hc f t args r ihS h
  · exact min_fold_sound opq hc f t args r ihS h
  · exact hrest f t _ args r (by decide) ihS h

/-- **`simplify` preserves meaning**, the folding of every aggregate the reference semantics interprets (`len`, `sum`, `prod`, `max`,
    `min`) proved; what is assumed concerns the oracle's `str` and `gcd` only -/
theorem simplify_sound_oracle (hc : OracleClosed opq) (hrest : AggFoldSoundOracle opq) : SimplifySound opq :=
  simplify_sound opq hc (aggFold_of_oracle opq hc hrest)

/-! ### `gcd`: what the oracle has to satisfy, and nothing about the rewriter left -/

/-- the oracle's `gcd` of two integers, where it has a value, is the greatest common divisor -/
def GcdOracleOk : Prop := ∀ (m n : Int) (w : Value), opq "gcd" [Value.num (m : Rat), Value.num (n : Rat)] = .ok w → w = Value.num ((Int.gcd m n : Nat) : Int)

/-- **the folding of `gcd` is sound** for every oracle whose `gcd` is the greatest common divisor -/
theorem gcd_fold_sound (hg : GcdOracleOk opq) (f : Nat) (t : DataType) (args : ExprList) (r : Expr)
    (ihS : ∀ e r', simp f e = .ok r' → Pres opq r' e)
    (h : simpCall (f + 1) (.call t "gcd" args) "gcd" args = .ok r) : Pres opq r (.call t "gcd" args) := by
  intro ρ v hv
  rw [simpCall_gcd] at h
  match args, h, hv with
  | .nil, h, hv | .cons _ .nil, h, hv | .cons _ (.cons _ (.cons _ _)), h, hv => cases h; exact hv
  | .cons a0 (.cons a1 .nil), h, hv =>
    obtain ⟨x, hx, h⟩ := bind_ok h
    obtain ⟨y, hy, h⟩ := bind_ok h
    cases hlx : numLit? x with
    | none => rw [hlx] at h; cases h; exact hv
    | some lx =>
      cases hly : numLit? y with
      | none => rw [hlx, hly] at h; cases lx <;> (cases h; exact hv)
      | some ly =>
        rw [hlx, hly] at h
        obtain ⟨xs, hxs, happ⟩ := call_unfold opq hv
        obtain ⟨v0, xs', h0, hxs', rfl⟩ := (evalList_cons_ok opq).1 hxs
        obtain ⟨v1, xs'', h1, hnil, rfl⟩ := (evalList_cons_ok opq).1 hxs'
        cases hnil
        obtain ⟨tx, kx, rfl⟩ := numLit_some hlx
        obtain ⟨ty, ky, rfl⟩ := numLit_some hly
        have e0 := ihS _ _ hx ρ _ h0
        have e1 := ihS _ _ hy ρ _ h1
        cases lx <;> cases ly <;> first | (cases h; done) | skip
        cases e0
        cases e1
        -- the reference semantics leaves `gcd` to the oracle
        cases hg _ _ v happ
        rw [litNumber_eval opq h ρ]
        rfl

/-- the one statement about the rewriter that `simplify_sound_gcd` assumes: the folding of `str` over a literal (Python's `str` tells
    `2` from `2.0`, which the value domain of the reference semantics does not) -/
def StrFoldSound : Prop := ∀ (f : Nat) (t : DataType) (args : ExprList) (r : Expr),
  (∀ e r', simp f e = .ok r' → Pres opq r' e) →
  simpCall (f + 1) (.call t "str" args) "str" args = .ok r → Pres opq r (.call t "str" args)

/-- **`simplify` preserves meaning** for every oracle that does not extend the interpreted functions and whose `gcd` is the greatest
    common divisor, assuming only the folding of `str` -/
theorem simplify_sound_gcd (hc : OracleClosed opq) (hg : GcdOracleOk opq) (hs : StrFoldSound opq) : SimplifySound opq :=
  simplify_sound_oracle opq hc fun f t fn args r hm ihS h => by
    simp only [List.mem_cons, List.not_mem_nil, or_false] at hm
    rcases hm with rfl | rfl
    · exact hs f t args r ihS h
    · exact gcd_fold_sound opq hg f t args r ihS h

/-- the oracle's `str`, where it has a value on the value of a literal, is the text Python's `str` gives for that literal -/
def StrOracleOk : Prop := ∀ (lv : LitVal) (x : Value) (rest : List Value) (s : String) (w : Value),
  litValue lv = .ok x → pyStr lv = .ok s → opq "str" (x :: rest) = .ok w → w = .prim (.str s)

/-- **the folding of `str` is sound** for every oracle whose `str` agrees with Python's on literals -/
theorem str_fold_sound (hs : StrOracleOk opq) : StrFoldSound opq := by
  intro f t args r ihS h ρ v hv
  rw [simpCall_str] at h
  obtain ⟨a, ha, h⟩ := bind_ok h
  cases hl : litVal? a with
  | none => rw [hl] at h; cases h; exact hv
  | some lv =>
    rw [hl] at h
    obtain ⟨s, hps, h⟩ := bind_ok h
    rcases ite_eq h with ⟨-, h⟩ | ⟨-, h⟩
    · cases h
    · cases h
      obtain ⟨xs, hxs, happ⟩ := call_unfold opq hv
      cases args with
      | nil => cases ha
      | cons a0 rest =>
        obtain ⟨v0, xs', h0, -, rfl⟩ := (evalList_cons_ok opq).1 hxs
        obtain ⟨ta, ka, rfl⟩ := litVal_some hl
        cases hs lv v0 xs' s v (ihS _ _ ha ρ _ h0) hps happ
        rfl

/-- **`simplify` preserves meaning — nothing assumed about the rewriter**: for every oracle that does not extend the interpreted
    functions and whose `gcd` and `str`, where they have a value, are Python's -/
theorem simplify_sound_of_oracle (hc : OracleClosed opq) (hg : GcdOracleOk opq) (hs : StrOracleOk opq) : SimplifySound opq :=
  simplify_sound_gcd opq hc hg (str_fold_sound opq hs)

/-- an oracle that gives `str` and `gcd` no value meets the assumption -/
theorem aggFoldOracle_of_silent (hs : ∀ xs v, opq "str" xs ≠ .ok v) (hg : ∀ xs v, opq "gcd" xs ≠ .ok v) : AggFoldSoundOracle opq := by
  intro f t fn args r hm _ _ ρ v hv
  simp only [List.mem_cons, List.not_mem_nil, or_false] at hm
  obtain ⟨xs, -, happ⟩ := call_unfold opq hv
  rcases hm with rfl | rfl
  · exact absurd happ (hs _ _)
  · exact absurd happ (hg _ _)

/-- the oracle that interprets nothing -/
def silentOracle : Opaque := fun _ _ => .error .type

/-- **unconditionally**: with the uninterpreted functions left without a value, `simplify` preserves the meaning of every expression
    it accepts (no hypothesis left: the premises of `simplify_sound_oracle` are satisfiable) -/
theorem simplify_sound_silent : SimplifySound silentOracle :=
  simplify_sound_oracle silentOracle (fun _ _ _ _ h => by cases h)
    (aggFoldOracle_of_silent silentOracle (fun _ _ h => by cases h) (fun _ _ h => by cases h))

/-- an oracle that is not silent: `str` of a boolean or of a string -/
def sampleOracle : Opaque := fun fn xs =>
  match fn, xs with
  | "str", [.prim (.bool b)] => .ok (.prim (.str (if b then "True" else "False")))
  | "str", [.prim (.str s)] => .ok (.prim (.str s))
  | _, _ => .error .opaque

/-- the premises of `simplify_sound_of_oracle` are met by an oracle that does give `str` values -/
theorem sampleOracle_ok : OracleClosed sampleOracle ∧ GcdOracleOk sampleOracle ∧ StrOracleOk sampleOracle ∧
    sampleOracle "str" [.prim (.bool true)] = .ok (.prim (.str "True")) := by
  refine ⟨?_, ?_, ?_, rfl⟩
  · intro fn hfn xs v h
    simp only [interpretedFuns, List.mem_cons, List.not_mem_nil, or_false] at hfn
    rcases hfn with rfl | rfl | rfl | rfl | rfl | rfl | rfl | rfl | rfl | rfl | rfl <;> cases h
  · intro m n w h
    cases h
  · intro lv x rest s w hx hp h
    cases lv <;> cases hx <;> cases rest <;> first | (cases h; done) | (cases h; cases hp; rfl)

/-- hence, for that oracle, with no hypothesis -/
theorem simplify_sound_sample : SimplifySound sampleOracle :=
  simplify_sound_of_oracle sampleOracle sampleOracle_ok.1 sampleOracle_ok.2.1 sampleOracle_ok.2.2.1

end Hpl
