import Hpl.Model.Rewrite.Simplify
import Hpl.Props.C09
import Hpl.Lemmas.BinOp
/-!
# C08 — `simplify` preserves meaning

Model: `Hpl/Model/Rewrite/Simplify.lean` (all rule functions of `hpl.rewrite._simplify*`, as written after the `fix:`
commits recorded in known_findings.json). Spec: `eval` of `Hpl/Spec/Eval.lean` and its boolean reading `truth` (`Hpl/Lemmas/Eval.lean`).

`Preserves e' e`: under every valuation on which the original `e` evaluates without error, `e'` evaluates to the same
value. This file states the property (`SimplifySound`) and proves the table obligations the flip and re-association steps rely
on; the rule functions follow in `C08a`/`C08b`, the recursion over the whole term in `C08c`, the folding of function calls in
`C08d`–`C08f`.
-/
namespace Hpl
section
variable (opq : Opaque)

/-- `e'` preserves `e`: wherever the original has a value, the rewritten form has the same value -/
def Preserves (e' e : Expr) : Prop := ∀ ρ v, evalO opq ρ e = some v → evalO opq ρ e' = some v

theorem Preserves.refl (e : Expr) : Preserves opq e e := fun _ _ h => h
theorem Preserves.trans {a b c : Expr} (h1 : Preserves opq a b) (h2 : Preserves opq b c) : Preserves opq a c :=
  fun ρ v h => h1 ρ v (h2 ρ v h)
theorem Preserves.of_like {a b : Expr} (h : EvalLike opq a b) : Preserves opq a b :=
  fun ρ v hv => by unfold evalO at *; rw [h ρ]; exact hv

/-- the statement of the property for the model (full strength) -/
def SimplifySound : Prop := ∀ e e', simplifyExpr e = .ok e' → Preserves opq e' e

/-! ## generated-table obligations (G2, G4): what the flip and re-association steps need -/

/-- operators flagged commutative are exactly these (each is semantically commutative, see `binOp_comm_ok`); stated per member, so
    that the order of the enum is irrelevant -/
theorem G2_commutative_flags : ∀ d ∈ Gen.binOps, (d.comm = true ↔ d.token ∈ ["+", "*", "iff", "or", "and", "=", "!="]) := by decide

/-- operators flagged associative (re-associated together with their commutativity) are exactly these -/
theorem G2_associative_flags : ∀ d ∈ Gen.binOps, (d.assoc = true ↔ d.token ∈ ["+", "*", "iff", "or", "and"]) := by decide

/-- every associative operator is also flagged commutative (the re-association needs both) -/
theorem G2_assoc_implies_comm : ∀ d ∈ Gen.binOps, d.assoc = true → d.comm = true := by decide

/-- `INVERSE_OPERATORS`: self-inverse for the commutative ones, `<`/`>` and `<=`/`>=` swapped -/
theorem G4_inverse_table :
    (∀ p ∈ Gen.inverseOps, p ∈ [("+", "+"), ("*", "*"), ("and", "and"), ("or", "or"), ("iff", "iff"), ("=", "="), ("!=", "!="),
       ("<", ">"), (">", "<"), ("<=", ">="), (">=", "<=")]) ∧
    (∀ p ∈ [("+", "+"), ("*", "*"), ("and", "and"), ("or", "or"), ("iff", "iff"), ("=", "="), ("!=", "!="),
       ("<", ">"), (">", "<"), ("<=", ">="), (">=", "<=")], p ∈ Gen.inverseOps) ∧
    (Gen.inverseOps.map (·.1)).Nodup := by decide

/-- semantic content of the inverse table for the comparison operators: `a < b` is `b > a` (errors collapsed) -/
theorem binOp_inverse_lt (a b : Value) : (binOp "<" a b).toOption = (binOp ">" b a).toOption := by
  rw [binOp_lt, binOp_gt]
  cases asPrim a <;> cases asPrim b <;> rfl

/-- truth-preservation for boolean rewrites: wherever the original has a truth value the result has the same one -/
def PreservesTruth (e' e : Expr) : Prop := ∀ ρ v, truth opq ρ e = some v → truth opq ρ e' = some v

end
end Hpl
