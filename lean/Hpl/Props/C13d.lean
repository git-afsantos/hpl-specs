import Hpl.Props.C13c
import Hpl.Props.C06f
/-!
# C13 / C16 — every tree the constructors build re-enters its constructors unchanged (`build_rebuildable`)

`Rebuildable` (hypothesis of `subst_back`, `subst_fwd`) is a theorem about parser output: a function call whose arguments are inside
one overload is returned unchanged by `mkCall` (`rebuild_stable_call`), a quantifier node accepted once is accepted again with the
same parts (`mkQuant_idem`), and narrowing never touches a quantifier or call node (their types are single base types).
-/
namespace Hpl

theorem zip_prefix_mem {α β : Type} {x : α × β} : ∀ {a : List α} {p r : List β}, x ∈ List.zip a p → x ∈ List.zip a (p ++ r)
  | [], _, _, h => by simp at h
  | _ :: _, [], _, h => by simp at h
  | a :: as, p :: ps, r, h => by
      simp only [List.zip_cons_cons, List.mem_cons, List.cons_append] at h ⊢
      rcases h with h | h
      · exact Or.inl h
      · exact Or.inr (zip_prefix_mem h)

theorem zip_replicate_mem {α β : Type} (v : β) : ∀ (a : List α) (x : α), x ∈ a → (x, v) ∈ List.zip a (List.replicate a.length v)
  | [], _, h => by simp at h
  | y :: ys, x, h => by
      simp only [List.length_cons, List.replicate_succ, List.zip_cons_cons, List.mem_cons] at h ⊢
      rcases h with rfl | h
      · exact Or.inl rfl
      · exact Or.inr (zip_replicate_mem v ys x h)

theorem zip_tail_mem {α β : Type} (v : β) : ∀ (ps : List β) (tys : List α) (x : α), x ∈ tys.drop ps.length →
    (x, v) ∈ List.zip tys (ps ++ List.replicate (tys.length - ps.length) v)
  | [], tys, x, h => by simpa using zip_replicate_mem v tys x (by simpa using h)
  | p :: ps, [], x, h => by simp at h
  | p :: ps, t :: ts, x, h => by
      simp only [List.length_cons, List.drop_succ_cons] at h
      have := zip_tail_mem v ps ts x h
      simp only [List.length_cons, List.cons_append, List.zip_cons_cons, List.mem_cons, Nat.add_sub_add_right]
      exact Or.inr this

/-- arguments that are non-empty and inside an overload's parameters are accepted by it -/
theorem accepts_of_inside {s : Sig} {tys : List DataType} (har : ArityOk s tys.length) (hin : ArgsInside tys s)
    (hne : ∀ a ∈ tys, a ≠ 0) : s.accepts tys = true := by
  have pair : ∀ p ∈ List.zip tys (s.paramsFor tys.length), (p.1 &&& p.2 != 0) = true := by
    intro p hp
    have hs := hin p hp
    unfold sub at hs
    rw [hs]
    simpa using hne p.1 (List.of_mem_zip hp).1
  unfold Sig.accepts
  simp only
  have h1 : ¬ (s.params.length > tys.length) := by have := har.1; omega
  have h2 : (decide (s.params.length < tys.length) && s.variadic.isNone) = false := by
    rcases har.2 with h | h
    · simp; intro hh; omega
    · cases hv : s.variadic with
      | none => rw [hv] at h; cases h
      | some v => simp
  simp only [h1, h2, if_false, Bool.false_eq_true, Bool.and_eq_true, List.all_eq_true]
  refine ⟨fun p hp => pair p (by unfold Sig.paramsFor; exact zip_prefix_mem hp), ?_⟩
  cases hv : s.variadic with
  | none => rfl
  | some v =>
    simp only [List.all_eq_true]
    intro a ha
    have := zip_tail_mem v s.params tys a ha
    have hm : (a, v) ∈ List.zip tys (s.paramsFor tys.length) := by
      unfold Sig.paramsFor; rw [hv]; simpa using this
    exact pair (a, v) hm

theorem WTList_ne : ∀ (es : ExprList), WTList es → ∀ a ∈ es.tys, a ≠ 0
  | .nil, _, a, h => nomatch h
  | .cons e es, hw, a, h => by
      rcases List.mem_cons.1 h with rfl | h
      · exact WT_ne e hw.1
      · exact WTList_ne es hw.2 a h

theorem mkCall_stable {f : String} {d : FunDef} {s : Sig} {args : ExprList} (hd : findFun f = some d) (hs : s ∈ d.overloads)
    (har : ArityOk s args.tys.length) (hin : ArgsInside args.tys s) (hne : ∀ a ∈ args.tys, a ≠ 0) :
    mkCall f args = .ok (.call d.result f args) := by
  have hmem : s ∈ d.overloads.filter (·.accepts args.tys) := List.mem_filter.2 ⟨hs, accepts_of_inside har hin hne⟩
  have huniq := unique_overload hd args.tys
  unfold mkCall
  simp only [hd]
  generalize d.overloads.filter (·.accepts args.tys) = L at hmem huniq ⊢
  match L, hmem, huniq with
  | [], hm, _ => simp at hm
  | [s'], hm, _ =>
    simp only [List.mem_singleton] at hm; subst hm
    have hst : castArgs args (s.paramsFor args.length) = .ok args := by
      apply castArgs_stable
      · intro p hp
        exact ⟨hin p (by rw [ExprList.tys_length]; exact hp), hne p.1 (List.of_mem_zip hp).1⟩
      · rw [ExprList.tys_length, paramsFor_length s _ (by have := har.1; rw [ExprList.tys_length] at this; exact this)]
        exact Nat.le_refl _
    simp [hst, bind, Except.bind, pure, Except.pure]
  | _ :: _ :: _, _, hu => simp at hu

/-- **C16**: a well-typed call node re-enters its constructor unchanged -/
theorem rebuild_stable_call (t : DataType) (f : String) (args : ExprList) (h : WT (.call t f args)) :
    mkCall f args = .ok (.call t f args) := by
  obtain ⟨d, hd, rfl, hwl, s, hs, har, hin⟩ := h
  exact mkCall_stable hd hs har hin (WTList_ne args hwl)

/-- a quantifier node the constructor returned is accepted again with exactly its parts -/
theorem mkQuant_idem {q : Quant} {x : String} {d0 b0 e : Expr} (h : mkQuant q x d0 b0 = .ok e) :
    ∃ d b, e = .quant T.BOOL q x d b ∧ castE d0 T.COMPOUND = .ok d ∧ castE b0 T.BOOL = .ok b ∧ mkQuant q x d b = .ok (.quant T.BOOL q x d b) := by
  obtain ⟨d, b, u, hd, hb, hany, hu, hu0, rfl⟩ := mkQuant_ok_iff.1 h
  have sd := castE_stable (castE_sub hd).1 (castE_ok hd).2.1
  have sb := castE_stable (castE_sub hb).1 (castE_ok hb).2.1
  exact ⟨d, b, rfl, hd, hb, mkQuant_ok_iff.2 ⟨d, b, u, sd, sb, hany, hu, hu0, rfl⟩⟩

theorem castE_rebuildable {e e' : Expr} {t : DataType} (h : castE e t = .ok e') (hw : WT e) (hb : Rebuildable e) : Rebuildable e' := by
  obtain ⟨hty, hne, rfl⟩ := castE_ok h
  have key : ∀ (a : DataType), Atomic a → a &&& t ≠ 0 → a &&& t = a := by
    intro a ha hne; rcases ha.2 t with h0 | h1
    · exact absurd h0 hne
    · exact h1
  simp only [Expr.ty_withTy] at hne
  cases e with
  | quant ty q x d b =>
    have : Atomic ty := by rw [show ty = T.BOOL from hw.1]; exact atomic_bool
    simp only [Expr.ty, Expr.withTy] at hne ⊢
    rw [key ty this hne]; exact hb
  | call ty f args =>
    obtain ⟨d, hd, rfl, rest⟩ := hw
    simp only [Expr.ty, Expr.withTy] at hne ⊢
    rw [key _ (fun_res_atomic hd) hne]; exact hb
  | lit _ _ _ | this _ | var _ _ => trivial
  | set _ _ | range _ _ _ _ _ | un _ _ _ | bin _ _ _ _ | field _ _ _ | index _ _ _ => exact hb

theorem castList_rebuildable (t : DataType) : ∀ {vs vs' : ExprList}, castList t vs = .ok vs' → WTList vs → RebuildableL vs → RebuildableL vs'
  | .nil, vs', h, _, _ => by cases h; trivial
  | .cons e es, vs', h, hw, hb => by
      obtain ⟨e', he', h⟩ := bind_ok h
      obtain ⟨es', hes', h⟩ := bind_ok h
      cases h
      exact ⟨castE_rebuildable he' hw.1 hb.1, castList_rebuildable t hes' hw.2 hb.2⟩

theorem castArgs_rebuildable : ∀ {args : ExprList} {ts : List DataType} {args' : ExprList}, castArgs args ts = .ok args' → WTList args →
    RebuildableL args → RebuildableL args'
  | .nil, ts, args', h, _, _ => by cases ts <;> (cases h; trivial)
  | .cons e es, [], args', h, _, _ => by cases h; trivial
  | .cons e es, t :: ts, args', h, hw, hb => by
      obtain ⟨e', he', h⟩ := bind_ok h
      obtain ⟨es', hes', h⟩ := bind_ok h
      cases h
      exact ⟨castE_rebuildable he' hw.1 hb.1, castArgs_rebuildable hes' hw.2 hb.2⟩

theorem buildBoth_rebuildable :
    (∀ r e, build r = .ok e → Rebuildable e) ∧ (∀ rs es, buildList rs = .ok es → RebuildableL es) :=
  build_induct (P := fun _ e => Rebuildable e) (PL := fun _ es => RebuildableL es)
    (lit := fun _ _ => trivial) (this := trivial) (var := fun _ => trivial)
    (set := fun hes ih h => by
      obtain ⟨vs', hvs', rfl⟩ := mkSet_ok h
      exact castList_rebuildable _ hvs' (buildList_WT _ _ hes) ih)
    (range := fun hlo hhi ihl ihh h => by
      obtain ⟨l2, h2, hl2, hh2, rfl⟩ := mkRange_ok h
      exact ⟨castE_rebuildable hl2 (build_WT _ _ hlo) ihl, castE_rebuildable hh2 (build_WT _ _ hhi) ihh⟩)
    (quant := fun hd hb ihd ihb h => by
      obtain ⟨d2, b2, rfl, hd2, hb2, hidem⟩ := mkQuant_idem h
      exact ⟨hidem, castE_rebuildable hd2 (build_WT _ _ hd) ihd, castE_rebuildable hb2 (build_WT _ _ hb) ihb⟩)
    (un := fun ha ih h => by
      obtain ⟨_, a2, _, ha2, rfl⟩ := mkUn_ok h
      exact (castE_rebuildable ha2 (build_WT _ _ ha) ih : Rebuildable a2))
    (bin := fun ha hb iha ihb h => by
      have wa := build_WT _ _ ha
      have wb := build_WT _ _ hb
      obtain ⟨_, a1, b1, _, ha1, hb1, h⟩ := mkBin_ok h
      have ra1 := castE_rebuildable ha1 wa iha
      have rb1 := castE_rebuildable hb1 wb ihb
      rcases h with ⟨_, a2, b2, ha2, hb2, rfl⟩ | ⟨_, rfl⟩
      · exact ⟨castE_rebuildable ha2 (castE_WT ha1 wa) ra1, castE_rebuildable hb2 (castE_WT hb1 wb) rb1⟩
      · exact ⟨ra1, rb1⟩)
    (call := fun has ih h => by
      have hwl := buildList_WT _ _ has
      have hw := mkCall_WT h hwl
      obtain ⟨_, _, a2, _, _, ha2, rfl⟩ := mkCall_ok h
      exact ⟨rebuild_stable_call _ _ _ hw, castArgs_rebuildable ha2 hwl ih⟩)
    (field := fun hm ih h => by
      obtain ⟨m2, hm2, rfl⟩ := mkFieldT_ok h
      exact (castE_rebuildable hm2 (build_WT _ _ hm) ih : Rebuildable m2))
    (index := fun ha hi iha ihi h => by
      obtain ⟨a2, i2, ha2, hi2, rfl⟩ := mkIndexT_ok h
      exact ⟨castE_rebuildable ha2 (build_WT _ _ ha) iha, castE_rebuildable hi2 (build_WT _ _ hi) ihi⟩)
    (nil := trivial) (cons := fun _ _ he hes => ⟨he, hes⟩)

/-- **every tree `build` returns is rebuildable**: its quantifier and call nodes re-enter their constructors unchanged -/
theorem build_rebuildable : ∀ (r : Raw) (e : Expr), build r = .ok e → Rebuildable e := buildBoth_rebuildable.1

theorem buildList_rebuildable : ∀ (rs : RawList) (es : ExprList), buildList rs = .ok es → RebuildableL es := buildBoth_rebuildable.2

mutual
/-- on syntax trees: the current message occurs only as the message of a field access -/
def Raw.noBare : Raw → Bool
  | .this => false
  | .lit .. | .var .. => true
  | .set vs => RawList.noBareL vs
  | .range lo hi _ _ => lo.noBare && hi.noBare
  | .quant _ _ d b => d.noBare && b.noBare
  | .un _ a => a.noBare
  | .bin _ a b => a.noBare && b.noBare
  | .call _ as => RawList.noBareL as
  | .field m _ => (match m with | .this => true | _ => m.noBare)
  | .index a i => a.noBare && i.noBare
def RawList.noBareL : RawList → Bool
  | .nil => true
  | .cons e es => e.noBare && RawList.noBareL es
end

theorem and_l {a b : Bool} (h : (a && b) = true) : a = true := (Bool.and_eq_true_iff.1 h).1
theorem and_r {a b : Bool} (h : (a && b) = true) : b = true := (Bool.and_eq_true_iff.1 h).2

mutual
theorem noBare_erase : ∀ (e : Expr), e.erase.noBare = true → NoBareThis e
  | .this _, h => nomatch h
  | .lit .., _ => trivial
  | .var .., _ => trivial
  | .set _ vs, h => noBareL_erase vs h
  | .range _ lo hi _ _, h => ⟨noBare_erase lo (and_l h), noBare_erase hi (and_r h)⟩
  | .quant _ _ _ d b, h => ⟨noBare_erase d (and_l h), noBare_erase b (and_r h)⟩
  | .un _ _ a, h => noBare_erase a h
  | .bin _ _ a b, h => ⟨noBare_erase a (and_l h), noBare_erase b (and_r h)⟩
  | .call _ _ as, h => noBareL_erase as h
  | .field _ m _, h => by
      cases hm : m.isThisB with
      | true => exact Or.inl hm
      | false =>
        refine Or.inr (noBare_erase m ?_)
        cases m with
        | this _ => simp [Expr.isThisB] at hm
        | _ => exact h
  | .index _ a i, h => ⟨noBare_erase a (and_l h), noBare_erase i (and_r h)⟩
theorem noBareL_erase : ∀ (es : ExprList), RawList.noBareL (ExprList.eraseL es) = true → NoBareThisL es
  | .nil, _ => trivial
  | .cons e es, h => ⟨noBare_erase e (and_l h), noBareL_erase es (and_r h)⟩
end

mutual
/-- what the expression parser can produce never has a bare current message -/
theorem printable_noBare : ∀ (r : Raw), r.printable = true → r.noBare = true
  | .this, h => nomatch h
  | .lit .., _ => rfl
  | .var .., _ => rfl
  | .set vs, h => printableL_noBare vs (and_r h)
  | .range lo hi _ _, h => Bool.and_eq_true_iff.2 ⟨printable_noBare lo (and_l h), printable_noBare hi (and_r h)⟩
  | .quant _ x d b, h => Bool.and_eq_true_iff.2 ⟨printable_noBare d (and_r (and_l (and_l h))), printable_noBare b (and_r h)⟩
  | .un _ a, h => printable_noBare a (and_r h)
  | .bin _ a b, h => Bool.and_eq_true_iff.2 ⟨printable_noBare a (and_r (and_l h)), printable_noBare b (and_r h)⟩
  | .call f (.cons a .nil), h => Bool.and_eq_true_iff.2 ⟨printable_noBare a (and_r h), rfl⟩
  | .call f .nil, h => nomatch and_r h
  | .call f (.cons _ (.cons _ _)), h => nomatch and_r h
  | .field .this n, _ => rfl
  | .field (.var y) n, _ => rfl
  | .field (.field m' n') n, h => printable_noBare (.field m' n') (and_r h)
  | .field (.index a' i') n, h => printable_noBare (.index a' i') (and_r h)
  | .field (.lit ..) n, h | .field (.set ..) n, h | .field (.range ..) n, h | .field (.quant ..) n, h | .field (.un ..) n, h
  | .field (.bin ..) n, h | .field (.call ..) n, h => nomatch and_r (and_l h)
  | .index a i, h => Bool.and_eq_true_iff.2 ⟨printable_noBare a (and_r (and_l h)), printable_noBare i (and_r h)⟩
theorem printableL_noBare : ∀ (rs : RawList), RawList.printable rs = true → RawList.noBareL rs = true
  | .nil, _ => rfl
  | .cons e es, h => Bool.and_eq_true_iff.2 ⟨printable_noBare e (and_l h), printableL_noBare es (and_r h)⟩
end

/-- **C13 for parser output**: for every tree `e` the constructors build from a printable syntax tree (every tree the expression
    parser returns whose own fields and functions have good names is of this form: `parse_print_parse`, C06m) and every alias name `A` not used in `e`, `replace_this_with_var(e, A)` succeeds and
    `replace_var_with_this` of the result is `e` again -/
theorem replace_roundtrip_parsed (A : String) (r : Raw) (e : Expr) (hp : r.printable = true) (hb : build r = .ok e) (hn : NoName A e) :
    ∃ e1, replaceThisWithVarE e A = .ok e1 ∧ replaceVarWithThisE e1 A = .ok e :=
  replace_roundtrip A e (build_WT r e hb) (build_rebuildable r e hb) hn
    (noBare_erase e (by rw [build_erase r e hb]; exact printable_noBare r hp))

end Hpl
