import Hpl.Lemmas.Eval
/-! Occurrence of `@a` is invariant under narrowing and is computed compositionally by the smart constructors. -/
namespace Hpl

theorem withTy_containsRef (t : DataType) (a : String) (e : Expr) : (e.withTy t).containsRef a = e.containsRef a := by
  cases e <;> rfl

theorem castE_containsRef {e e' : Expr} {t : DataType} (h : castE e t = .ok e') (a : String) :
    e'.containsRef a = e.containsRef a := by
  obtain ⟨_, _, rfl⟩ := castE_ok h
  exact withTy_containsRef _ a e

theorem castArgs_containsRef : ∀ {args : ExprList} {ts : List DataType} {args' : ExprList},
    castArgs args ts = .ok args' → args.length ≤ ts.length → ∀ a, args'.containsRef a = args.containsRef a
  | .nil, ts, args', h, _, a => by cases ts <;> (cases h; rfl)
  | .cons e es, [], args', h, hl, a => by simp [ExprList.length] at hl
  | .cons e es, t :: ts, args', h, hl, a => by
      obtain ⟨e', he', h⟩ := bind_ok h
      obtain ⟨es', hes', h⟩ := bind_ok h
      cases h
      simp only [ExprList.containsRef, castE_containsRef he',
        castArgs_containsRef hes' (by simp [ExprList.length] at hl; omega)]

theorem mkUn_containsRef {op : String} {x e : Expr} (h : mkUn op x = .ok e) (a : String) : e.containsRef a = x.containsRef a := by
  obtain ⟨t, tx, rfl⟩ := mkUn_narrow h
  rw [Expr.containsRef, withTy_containsRef]

theorem mkBin_containsRef {op : String} {x y e : Expr} (h : mkBin op x y = .ok e) (a : String) :
    e.containsRef a = (x.containsRef a || y.containsRef a) := by
  obtain ⟨t, tx, ty, rfl⟩ := mkBin_narrow h
  rw [Expr.containsRef, withTy_containsRef, withTy_containsRef]

/-- the operands the binary constructor stores are the given ones up to narrowing -/
theorem mkBin_operands {op : String} {x y : Expr} {t : DataType} {x' y' : Expr} (h : mkBin op x y = .ok (.bin t op x' y')) (a : String) :
    x'.containsRef a = x.containsRef a ∧ y'.containsRef a = y.containsRef a := by
  obtain ⟨_, tx, ty, he⟩ := mkBin_narrow h
  cases he
  exact ⟨withTy_containsRef tx a x, withTy_containsRef ty a y⟩

theorem mkQuant_containsRef {q : Quant} {x : String} {d b e : Expr} (h : mkQuant q x d b = .ok e) (a : String) :
    e.containsRef a = (d.containsRef a || b.containsRef a) := by
  obtain ⟨td, tb, rfl⟩ := mkQuant_narrow h
  rw [Expr.containsRef, withTy_containsRef, withTy_containsRef]

theorem mkCall_containsRef {f : String} {args : ExprList} {e : Expr} (h : mkCall f args = .ok e) (a : String) :
    e.containsRef a = args.containsRef a := by
  obtain ⟨t, args', rfl, ts, hc, hl⟩ := mkCall_narrow h
  rw [Expr.containsRef, castArgs_containsRef hc hl]

theorem emptyTest_containsRef {d te : Expr} (h : emptyTest d = .ok te) (a : String) : te.containsRef a = d.containsRef a := by
  obtain ⟨c, hc, h⟩ := bind_ok h
  rw [mkBin_containsRef h, mkCall_containsRef hc]
  simp [ExprList.containsRef, Expr.containsRef]

theorem splitHalf_containsRef {x : String} {d p h : Expr} (hh : splitHalf x d p = .ok h) (a : String) :
    h.containsRef a = (d.containsRef a || p.containsRef a) := by
  rcases ite_eq hh with ⟨_, hh⟩ | ⟨_, hh⟩
  · exact mkQuant_containsRef hh a
  · obtain ⟨te, hte, hh⟩ := bind_ok hh
    rw [mkBin_containsRef hh, emptyTest_containsRef hte]

end Hpl
