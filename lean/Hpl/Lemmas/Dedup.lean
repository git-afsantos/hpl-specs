/-! First-occurrence de-duplication (`List.eraseDups`) commutes with mapping: the value of a set literal does not change
    when syntactically repeated members are dropped. -/
namespace Hpl

variable {α β : Type} [BEq α] [LawfulBEq α] [BEq β] [LawfulBEq β]

/-- structural first-occurrence de-duplication -/
def dd : List α → List α
  | [] => []
  | a :: l => a :: (dd l).filter (fun b => !b == a)

theorem filter_ne_of_not {p : α → Bool} {x : α} (hx : p x = false) (l : List α) :
    (l.filter p).filter (fun b => !b == x) = l.filter p := by
  induction l with
  | nil => rfl
  | cons y l ih =>
    simp only [List.filter]
    cases hy : p y with
    | false => simpa using ih
    | true =>
      have : (y == x) = false := by
        cases hyx : y == x with
        | false => rfl
        | true => have := eq_of_beq hyx; subst this; rw [hx] at hy; cases hy
      simp only [List.filter, this, Bool.not_false]
      rw [ih]

theorem filter_comm (p q : α → Bool) (l : List α) : (l.filter p).filter q = (l.filter q).filter p := by
  simp only [List.filter_filter, Bool.and_comm]

theorem filter_dd (p : α → Bool) : ∀ l : List α, (dd l).filter p = dd (l.filter p)
  | [] => rfl
  | x :: l => by
      have ih := filter_dd p l
      cases hx : p x with
      | true =>
        simp only [dd, List.filter, hx]
        rw [← ih, filter_comm]
      | false =>
        simp only [dd, List.filter, hx]
        rw [← ih, filter_comm, filter_ne_of_not hx]

theorem eraseDups_eq_dd : ∀ (n : Nat) (l : List α), l.length ≤ n → l.eraseDups = dd l
  | _, [], _ => by simp [dd]
  | 0, _ :: _, h => by simp at h
  | n+1, a :: l, h => by
      rw [List.eraseDups_cons]
      have hlen : (l.filter (fun b => !b == a)).length ≤ n := Nat.le_trans (List.length_filter_le _ _) (by simpa using h)
      rw [eraseDups_eq_dd n _ hlen, ← filter_dd]
      rfl

theorem eraseDups_dd (l : List α) : l.eraseDups = dd l := eraseDups_eq_dd l.length l (Nat.le_refl _)

theorem filter_map_filter (f : α → β) (a : α) (l : List α) :
    ((l.filter (fun b => !b == a)).map f).filter (fun c => !c == f a) = (l.map f).filter (fun c => !c == f a) := by
  induction l with
  | nil => rfl
  | cons y l ih =>
    cases hy : y == a with
    | true =>
      have := eq_of_beq hy; subst this
      simp only [List.filter, hy, Bool.not_true, List.map, BEq.rfl]
      exact ih
    | false =>
      simp only [List.filter, hy, Bool.not_false, List.map]
      cases hf : f y == f a with
      | true => simpa using ih
      | false => simp only [Bool.not_false]; rw [ih]

/-- mapping after de-duplication and de-duplicating again is de-duplicating the mapped list -/
theorem dd_map_dd (f : α → β) : ∀ l : List α, dd ((dd l).map f) = dd (l.map f)
  | [] => rfl
  | a :: l => by
      have ih := dd_map_dd f l
      simp only [dd, List.map]
      congr 1
      rw [filter_dd, filter_map_filter, ← filter_dd, ih]

theorem eraseDups_map_eraseDups (f : α → β) (l : List α) : (l.eraseDups.map f).eraseDups = (l.map f).eraseDups := by
  rw [eraseDups_dd, eraseDups_dd, eraseDups_dd, dd_map_dd]

theorem mem_eraseDups {x : α} {l : List α} (h : x ∈ l.eraseDups) : x ∈ l := List.mem_eraseDups.1 h

end Hpl
