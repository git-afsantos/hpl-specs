/-! Strict universal / existential quantification over a list in `Option` (one error value, so strict conjunction
    commutes with everything). Used for quantifier rules (C08–C10). -/
namespace Hpl

theorem map2_some {x y : Option Bool} {f : Bool → Bool → Bool} {v : Bool}
    (h : (do let a ← x; let b ← y; pure (f a b)) = some v) : ∃ a b, x = some a ∧ y = some b ∧ f a b = v := by
  cases x with
  | none => cases h
  | some a =>
    cases y with
    | none => cases h
    | some b => exact ⟨a, b, rfl, rfl, Option.some.inj h⟩

def allO {α : Type} (xs : List α) (f : α → Option Bool) : Option Bool := (xs.mapM f).map (·.all id)
def anyO {α : Type} (xs : List α) (f : α → Option Bool) : Option Bool := (xs.mapM f).map (·.any id)

theorem allO_nil {α : Type} (f : α → Option Bool) : allO [] f = some true := rfl
theorem anyO_nil {α : Type} (f : α → Option Bool) : anyO [] f = some false := rfl

theorem allO_cons {α : Type} (x : α) (xs : List α) (f : α → Option Bool) :
    allO (x :: xs) f = (do let a ← f x; let b ← allO xs f; pure (a && b)) := by
  unfold allO
  rw [List.mapM_cons]
  cases f x <;> cases xs.mapM f <;> rfl

theorem anyO_cons {α : Type} (x : α) (xs : List α) (f : α → Option Bool) :
    anyO (x :: xs) f = (do let a ← f x; let b ← anyO xs f; pure (a || b)) := by
  unfold anyO
  rw [List.mapM_cons]
  cases f x <;> cases xs.mapM f <;> rfl

theorem allO_congr {α : Type} (xs : List α) (f g : α → Option Bool) (h : ∀ v, f v = g v) : allO xs f = allO xs g := by
  have : f = g := funext h
  rw [this]

theorem allO_and {α : Type} (xs : List α) (f g : α → Option Bool) :
    allO xs (fun v => do let a ← f v; let b ← g v; pure (a && b)) =
      (do let a ← allO xs f; let b ← allO xs g; pure (a && b)) := by
  induction xs with
  | nil => rfl
  | cons x xs ih =>
    rw [allO_cons, allO_cons, allO_cons, ih]
    cases f x <;> cases g x <;> cases allO xs f <;> cases allO xs g <;>
      first | rfl | simp [bind, Option.bind, pure, Bool.and_assoc, Bool.and_left_comm]

theorem allO_const {α : Type} (xs : List α) (b : Bool) : allO xs (fun _ => some b) = some (xs.isEmpty || b) := by
  induction xs with
  | nil => rfl
  | cons x xs ih =>
    rw [allO_cons, ih]
    cases xs <;> simp [bind, Option.bind, pure]

theorem anyO_not {α : Type} (xs : List α) (f : α → Option Bool) :
    (anyO xs f).map (!·) = allO xs (fun v => (f v).map (!·)) := by
  induction xs with
  | nil => rfl
  | cons x xs ih =>
    rw [allO_cons, anyO_cons, ← ih]
    cases f x <;> cases anyO xs f <;> simp [bind, Option.bind, pure, Option.map]

theorem allO_mono {α : Type} (xs : List α) (f' f : α → Option Bool)
    (h : ∀ v r, f' v = some r → f v = some r) : ∀ r, allO xs f' = some r → allO xs f = some r := by
  induction xs with
  | nil => intro r hr; exact hr
  | cons x xs ih =>
    intro r hr
    rw [allO_cons] at hr ⊢
    obtain ⟨a, b, hfx, hxs, rfl⟩ := map2_some hr
    rw [h x a hfx, ih b hxs]
    rfl

theorem anyO_mono {α : Type} (xs : List α) (f' f : α → Option Bool)
    (h : ∀ v r, f' v = some r → f v = some r) : ∀ r, anyO xs f' = some r → anyO xs f = some r := by
  induction xs with
  | nil => intro r hr; exact hr
  | cons x xs ih =>
    intro r hr
    rw [anyO_cons] at hr ⊢
    obtain ⟨a, b, hfx, hxs, rfl⟩ := map2_some hr
    rw [h x a hfx, ih b hxs]
    rfl

theorem allO_append {α : Type} (xs ys : List α) (f : α → Option Bool) :
    allO (xs ++ ys) f = (do let a ← allO xs f; let b ← allO ys f; pure (a && b)) := by
  induction xs with
  | nil => simp only [List.nil_append, allO_nil]; cases allO ys f <;> rfl
  | cons x xs ih =>
    rw [List.cons_append, allO_cons, allO_cons, ih]
    cases f x <;> cases allO xs f <;> cases allO ys f <;> simp [bind, Option.bind, pure, Bool.and_assoc]

theorem allO_perm {α : Type} {xs ys : List α} (h : xs.Perm ys) (f : α → Option Bool) : allO xs f = allO ys f := by
  induction h with
  | nil => rfl
  | cons x _ ih => rw [allO_cons, allO_cons, ih]
  | swap x y l =>
    rw [allO_cons, allO_cons, allO_cons, allO_cons]
    cases f x <;> cases f y <;> cases allO l f <;> simp [bind, Option.bind, pure, Bool.and_left_comm]
  | trans _ _ ih1 ih2 => exact ih1.trans ih2

end Hpl
