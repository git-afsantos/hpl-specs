import Hpl.Model.Rewrite.Simplify
import Hpl.Lemmas.Except
import Hpl.Props.C03
/-!
# One step of the simplifier model

What each of the seven mutually recursive functions of `Model/Rewrite/Simplify.lean` does with one unit of fuel: which branch
produced a successful result, and from which recursive calls; which rule of an arithmetic or comparison rule function fired;
which regrouping `reassoc` made. The inductions over the simplifier start from these lemmas.
-/
namespace Hpl

/-- `_simplify_negation` after the recursive call on the operand -/
def negationRule (p : Expr) : M Expr :=
  if isTrueLit p then pure falseLit
  else if isFalseLit p then pure trueLit
  else match p with
    | .un _ op2 x => if op2 == Gen.NOT_OPERATOR then pure x else mkNot p
    | _ => mkNot p

/-- `_simplify_negative_number` after the recursive call on the operand -/
def negNumberRule (a' : Expr) : M Expr :=
  match numLit? a' with
  | some v => do let n ← pyNeg v; litNumber n
  | none =>
    match a' with
    | .un _ op x => if op == "-" then pure x else mkMinus a'
    | _ => mkMinus a'

/-- a test on an operator or function name: in the branch taken the name is known -/
theorem ite_beq {α : Type} {a b : String} {x y z : α} (h : (if a == b then x else y) = z) : a = b ∧ x = z ∨ y = z := by
  rcases ite_eq h with ⟨hc, h⟩ | ⟨-, h⟩
  · exact .inl ⟨eq_of_beq hc, h⟩
  · exact .inr h

theorem findBin_token {op : String} {d : BinDef} (h : findBin op = some d) : d ∈ Gen.binOps ∧ d.token = op := by
  have h2 := List.find?_some h
  exact ⟨List.mem_of_find?_eq_some h, eq_of_beq h2⟩

theorem lookup_mem {k v : String} : ∀ {l : List (String × String)}, l.lookup k = some v → (k, v) ∈ l
  | [], h => by cases h
  | (k', v') :: l, h => by
      rw [List.lookup] at h
      split at h
      · rename_i heq
        cases h
        cases eq_of_beq heq
        exact List.mem_cons_self
      · exact List.mem_cons_of_mem _ (lookup_mem h)

theorem sameOp_some {op : String} {z p q : Expr} (h : sameOp op z = some (p, q)) : ∃ t, z = .bin t op p q := by
  cases z with
  | bin t o x y =>
    replace h := ite_beq h
    rcases h with ⟨rfl, h⟩ | h
    · cases h
      exact ⟨t, rfl⟩
    · cases h
  | _ => cases h

theorem isDivision_some {e x y : Expr} (h : isDivision e = some (x, y)) : ∃ t, e = .bin t "/" x y :=
  sameOp_some (op := "/") h

theorem mkUn_shape {op : String} {a e : Expr} (h : mkUn op a = .ok e) : ∃ t a', e = .un t op a' := by
  obtain ⟨d, a', -, -, rfl⟩ := mkUn_ok h
  exact ⟨_, _, rfl⟩

inductive SimpStep (f : Nat) (r : Expr) : Expr → Prop
  | not {t a p} : simp f a = .ok p → negationRule p = .ok r → SimpStep f r (.un t Gen.NOT_OPERATOR a)
  | neg {t a} : simpNeg f (.un t "-" a) a = .ok r → SimpStep f r (.un t "-" a)
  | bin {t op a b} : simpBinop f (.bin t op a b) = .ok r → SimpStep f r (.bin t op a b)
  | call {t fn args} : simpCall f (.call t fn args) fn args = .ok r → SimpStep f r (.call t fn args)
  | setDedup {t vs vs'} : simpList f vs = .ok vs' → mkSet (ExprList.ofList (dedupe vs'.toList)) = .ok r → SimpStep f r (.set t vs)
  | set {t vs vs'} : simpList f vs = .ok vs' → mkSet vs' = .ok r → SimpStep f r (.set t vs)
  | range {t lo hi a b lo' hi'} : simp f lo = .ok lo' → simp f hi = .ok hi' → mkRange lo' hi' a b = .ok r →
      SimpStep f r (.range t lo hi a b)
  | same : SimpStep f r r

theorem simp_ok {f : Nat} {e r : Expr} (h : simp (f + 1) e = .ok r) : SimpStep f r e := by
  cases e with
  | un t op a =>
    replace h := ite_beq h
    rcases h with ⟨rfl, h⟩ | h
    · obtain ⟨p, hp, h⟩ := bind_ok h
      exact .not hp h
    replace h := ite_beq h
    rcases h with ⟨rfl, h⟩ | h
    · exact .neg h
    · cases h; exact .same
  | bin t op a b => exact .bin h
  | call t fn args => exact .call h
  | set t vs =>
    obtain ⟨vs', hvs, h⟩ := bind_ok h
    rcases ite_eq h with ⟨-, h⟩ | ⟨-, h⟩
    · exact .setDedup hvs h
    · exact .set hvs h
  | range t lo hi a b =>
    obtain ⟨lo', hlo, h⟩ := bind_ok h
    obtain ⟨hi', hhi, h⟩ := bind_ok h
    exact .range hlo hhi h
  | lit _ _ _ | this _ | var _ _ | quant _ _ _ _ _ | field _ _ _ | index _ _ _ => cases h; exact .same

theorem simpList_nil_ok {f : Nat} {rs : ExprList} (h : simpList (f + 1) .nil = .ok rs) : rs = .nil := by
  cases h; rfl

theorem simpList_cons_ok {f : Nat} {e : Expr} {es rs : ExprList} (h : simpList (f + 1) (.cons e es) = .ok rs) :
    ∃ e' es', simp f e = .ok e' ∧ simpList f es = .ok es' ∧ rs = .cons e' es' := by
  obtain ⟨e', he', h⟩ := bind_ok h
  obtain ⟨es', hes', h⟩ := bind_ok h
  cases h
  exact ⟨e', es', he', hes', rfl⟩

theorem simpNeg_ok {f : Nat} {e a r : Expr} (h : simpNeg (f + 1) e a = .ok r) :
    ∃ a', simp f a = .ok a' ∧ negNumberRule a' = .ok r :=
  bind_ok h

inductive PreStep (f : Nat) (op : String) (a b r : Expr) : Prop
  | keep : mkBin op a b = .ok r → PreStep f op a b r
  | comm {d} : findBin op = some d → d.comm = true → mkBin op b a = .ok r → PreStep f op a b r
  | inverse {d inv} : findBin op = some d → d.comm = false → Gen.inverseOps.lookup op = some inv → mkBin inv b a = .ok r →
      PreStep f op a b r
  | reassoc {d} : findBin op = some d → d.assoc = true → reassoc op (simpBinop f) a b = .ok r → PreStep f op a b r

theorem preBinop_ok {f : Nat} {e r : Expr} (h : preBinop (f + 1) e = .ok r) :
    ∃ t op x y a b, e = .bin t op x y ∧ simp f x = .ok a ∧ simp f y = .ok b ∧ PreStep f op a b r := by
  cases e with
  | bin t op x y =>
    obtain ⟨a, ha, h⟩ := bind_ok h
    obtain ⟨b, hb, h⟩ := bind_ok h
    refine ⟨t, op, x, y, a, b, rfl, ha, hb, ?_⟩
    rcases ite_eq h with ⟨-, h⟩ | ⟨-, h⟩
    · exact .keep h
    rcases ite_eq h with ⟨-, h⟩ | ⟨-, h⟩
    · exact .keep h
    rcases ite_eq h with ⟨-, h⟩ | ⟨-, h⟩
    · cases hd : findBin op with
      | none => rw [hd] at h; cases h
      | some d =>
        rw [hd] at h
        rcases ite_eq h with ⟨hc, h⟩ | ⟨hc, h⟩
        · exact .comm hd hc h
        · cases hi : Gen.inverseOps.lookup op with
          | none => rw [hi] at h; exact .keep h
          | some inv => rw [hi] at h; exact .inverse hd (by simpa using hc) hi h
    · cases hd : findBin op with
      | none => rw [hd] at h; cases h
      | some d =>
        rw [hd] at h
        rcases ite_eq h with ⟨hc, h⟩ | ⟨-, h⟩
        · exact .reassoc hd hc h
        · exact .keep h
  | _ => cases h

inductive AddStep (expr a b r : Expr) : Prop
  | rightZero {y} : litVal? b = some y → isZero y = true → r = a → AddStep expr a b r
  | leftZero {x y} : litVal? a = some x → litVal? b = some y → isZero x = true → r = b → AddStep expr a b r
  | fold {x y v} : litVal? a = some x → litVal? b = some y → pyAdd x y = .ok v → litNumber v = .ok r → AddStep expr a b r
  | opposite : obviousNegatives a b = true → litNumber (.int 0) = .ok r → AddStep expr a b r
  | same : r = expr → AddStep expr a b r

theorem simpAddition_ok {expr a b r : Expr} (h : simpAddition expr a b = .ok r) : AddStep expr a b r := by
  have last : (if obviousNegatives a b then litNumber (.int 0) else .ok expr) = .ok r → AddStep expr a b r := by
    intro h
    rcases ite_eq h with ⟨hc, h⟩ | ⟨-, h⟩
    · exact .opposite hc h
    · cases h; exact .same rfl
  unfold simpAddition at h
  cases hb : litVal? b with
  | none => rw [hb] at h; exact last h
  | some y =>
    rw [hb] at h
    rcases ite_eq h with ⟨hc, h⟩ | ⟨-, h⟩
    · cases h; exact .rightZero hb hc rfl
    cases ha : litVal? a with
    | none => rw [ha] at h; exact last h
    | some x =>
      rw [ha] at h
      rcases ite_eq h with ⟨hc, h⟩ | ⟨-, h⟩
      · cases h; exact .leftZero ha hb hc rfl
      · obtain ⟨v, hv, h⟩ := bind_ok h
        exact .fold ha hb hv h

inductive SubStep (expr a b r : Expr) : Prop
  | rightZero {y} : litVal? b = some y → isZero y = true → r = a → SubStep expr a b r
  | fold {x y v} : litVal? a = some x → litVal? b = some y → pySub x y = .ok v → litNumber v = .ok r → SubStep expr a b r
  | equal : (a == b) = true → litNumber (.int 0) = .ok r → SubStep expr a b r
  | minusNeg {t x t' a' b'} : b = .un t "-" x → mkAdd a x = .ok (.bin t' "+" a' b') →
      simpAddition (.bin t' "+" a' b') a' b' = .ok r → SubStep expr a b r
  | same : r = expr → SubStep expr a b r

theorem simpSubtraction_ok {expr a b r : Expr} : simpSubtraction expr a b = .ok r → SubStep expr a b r := by
  have rest : (if a == b then litNumber (.int 0)
      else match b with
        | .un _ op x => if op == "-" then do
            let e ← mkAdd a x
            (match e with | .bin _ _ a' b' => simpAddition e a' b' | _ => .ok e) else .ok expr
        | _ => .ok expr) = .ok r → SubStep expr a b r := by
    intro h
    rcases ite_eq h with ⟨hc, h⟩ | ⟨-, h⟩
    · exact .equal hc h
    cases b with
    | un t op x =>
      rcases ite_eq h with ⟨ho, h⟩ | ⟨-, h⟩
      · cases eq_of_beq ho
        obtain ⟨e, he, h⟩ := bind_ok h
        obtain ⟨d, a1, b1, -, -, -, ⟨-, a2, b2, -, -, rfl⟩ | ⟨-, rfl⟩⟩ := mkBin_ok he
        · exact .minusNeg rfl he h
        · exact .minusNeg rfl he h
      · cases h; exact .same rfl
    | _ => cases h; exact .same rfl
  intro h
  unfold simpSubtraction at h
  dsimp only at h
  cases hb : litVal? b with
  | none => rw [hb] at h; exact rest h
  | some y =>
    rw [hb] at h
    rcases ite_eq h with ⟨hc, h⟩ | ⟨-, h⟩
    · cases h; exact .rightZero hb hc rfl
    cases ha : litVal? a with
    | none => rw [ha] at h; exact rest h
    | some x =>
      rw [ha] at h
      obtain ⟨v, hv, h⟩ := bind_ok h
      exact .fold ha hb hv h

inductive DivStep (expr a b r : Expr) : Prop
  | rightOne {y} : litVal? b = some y → ¬isZero y = true → isOne y = true → r = a → DivStep expr a b r
  | leftZero {x y} : litVal? a = some x → litVal? b = some y → ¬isZero y = true → isZero x = true → r = a → DivStep expr a b r
  | fold {x y v} : litVal? a = some x → litVal? b = some y → ¬isZero y = true → pyDiv x y = .ok v → litNumber v = .ok r →
      DivStep expr a b r
  | equal : (a == b) = true → litNumber (.int 1) = .ok r → DivStep expr a b r
  | opposite : obviousNegatives a b = true → litNumber (.int (-1)) = .ok r → DivStep expr a b r
  | same : r = expr → DivStep expr a b r

theorem simpDivision_ok {expr a b r : Expr} (h : simpDivision expr a b = .ok r) : DivStep expr a b r := by
  have rest : (if a == b then litNumber (.int 1) else if obviousNegatives a b then litNumber (.int (-1)) else .ok expr) = .ok r →
      DivStep expr a b r := by
    intro h
    rcases ite_eq h with ⟨hc, h⟩ | ⟨-, h⟩
    · exact .equal hc h
    rcases ite_eq h with ⟨hc, h⟩ | ⟨-, h⟩
    · exact .opposite hc h
    · cases h; exact .same rfl
  unfold simpDivision at h
  dsimp only at h
  cases hb : litVal? b with
  | none => rw [hb] at h; exact rest h
  | some y =>
    rw [hb] at h
    rcases ite_eq h with ⟨-, h⟩ | ⟨hz, h⟩
    · cases h
    rcases ite_eq h with ⟨hc, h⟩ | ⟨-, h⟩
    · cases h; exact .rightOne hb hz hc rfl
    cases ha : litVal? a with
    | none => rw [ha] at h; exact rest h
    | some x =>
      rw [ha] at h
      rcases ite_eq h with ⟨hc, h⟩ | ⟨-, h⟩
      · cases h; exact .leftZero ha hb hz hc rfl
      · obtain ⟨v, hv, h⟩ := bind_ok h
        exact .fold ha hb hz hv h

inductive PowStep (expr a b r : Expr) : Prop
  | rightOne {y} : litVal? b = some y → isOne y = true → r = a → PowStep expr a b r
  | rightZero {y} : litVal? b = some y → isZero y = true → litNumber (.int 1) = .ok r → PowStep expr a b r
  | leftUnit {x y} : litVal? a = some x → litVal? b = some y → ¬isOne y = true → ¬isZero y = true →
      (isOne x || isZero x) = true → r = a → PowStep expr a b r
  | fold {x y v} : litVal? a = some x → litVal? b = some y → ¬isOne y = true → ¬isZero y = true →
      ¬(isOne x || isZero x) = true → pyPow x y = .ok v → litNumber v = .ok r → PowStep expr a b r
  | same : r = expr → PowStep expr a b r

theorem simpExponentiation_ok {expr a b r : Expr} (h : simpExponentiation expr a b = .ok r) : PowStep expr a b r := by
  unfold simpExponentiation at h
  cases hb : litVal? b with
  | none => rw [hb] at h; cases h; exact .same rfl
  | some y =>
    rw [hb] at h
    rcases ite_eq h with ⟨hc, h⟩ | ⟨h1, h⟩
    · cases h; exact .rightOne hb hc rfl
    rcases ite_eq h with ⟨hc, h⟩ | ⟨h0, h⟩
    · exact .rightZero hb hc h
    cases ha : litVal? a with
    | none => rw [ha] at h; cases h; exact .same rfl
    | some x =>
      rw [ha] at h
      rcases ite_eq h with ⟨hc, h⟩ | ⟨hx, h⟩
      · cases h; exact .leftUnit ha hb h1 h0 hc rfl
      · obtain ⟨v, hv, h⟩ := bind_ok h
        exact .fold ha hb h1 h0 hx hv h

inductive CmpStep (phi : Expr) (op : String) (a b r : Expr) : Prop
  | lits {x y c} : litVal? a = some x → litVal? b = some y → r = litBool c → CmpStep phi op a b r
  | differentEq : obviouslyDifferent a b = true → op = "=" → r = falseLit → CmpStep phi op a b r
  | differentNe : obviouslyDifferent a b = true → op = "!=" → r = trueLit → CmpStep phi op a b r
  | same : r = phi → CmpStep phi op a b r

theorem simpComparison_ok {phi : Expr} {op : String} {a b r : Expr} (h : simpComparison phi op a b = .ok r) :
    CmpStep phi op a b r := by
  unfold simpComparison at h
  split at h
  · rename_i x y hla hlb
    have lit : ∀ {m : M Bool} {g : Bool → Bool}, (do let c ← m; pure (litBool (g c))) = .ok r → CmpStep phi op a b r := by
      intro m g h
      obtain ⟨c, -, h⟩ := bind_ok h
      cases h
      exact .lits hla hlb rfl
    rcases ite_eq h with ⟨-, h⟩ | ⟨-, h⟩
    · cases h; exact .lits hla hlb rfl
    rcases ite_eq h with ⟨-, h⟩ | ⟨-, h⟩
    · exact lit (g := id) h
    rcases ite_eq h with ⟨-, h⟩ | ⟨-, h⟩
    · exact lit h
    rcases ite_eq h with ⟨-, h⟩ | ⟨-, h⟩
    · exact lit (g := id) h
    rcases ite_eq h with ⟨-, h⟩ | ⟨-, h⟩
    · exact lit h
    · cases h; exact .lits hla hlb rfl
  · rcases ite_eq h with ⟨hd, h⟩ | ⟨-, h⟩
    · rcases ite_eq h with ⟨ho, h⟩ | ⟨-, h⟩
      · cases h; exact .differentEq hd (eq_of_beq ho) rfl
      rcases ite_eq h with ⟨ho, h⟩ | ⟨-, h⟩
      · cases h; exact .differentNe hd (eq_of_beq ho) rfl
      · cases h; exact .same rfl
    · cases h; exact .same rfl

/-- the first swap of `reassoc` on `(a1 ∘ a2) ∘ (b1 ∘ b2)`: the four operands and the two groups it leaves -/
inductive ReassocFirst (op : String) (sb : Expr → M Expr) (a1 a2 b1 b2 a b : Expr) :
    Expr → Expr → Expr → Expr → Expr → Expr → Prop
  | swap {na nb a' b'} : mkBin op a1 b1 = .ok na → sb na = .ok a' → mkBin op b2 a2 = .ok nb → sb nb = .ok b' →
      ReassocFirst op sb a1 a2 b1 b2 a b a1 b1 b2 a2 a' b'
  | keep : ReassocFirst op sb a1 a2 b1 b2 a b a1 a2 b1 b2 a b

inductive ReassocStep (op : String) (sb : Expr → M Expr) (a b r : Expr) : Prop
  | keep : mkBin op a b = .ok r → ReassocStep op sb a b r
  | left {t a1 a2 na a'} : a = .bin t op a1 a2 → mkBin op a1 b = .ok na → sb na = .ok a' → mkBin op a' a2 = .ok r →
      ReassocStep op sb a b r
  | right {t b1 b2 nb b'} : b = .bin t op b1 b2 → mkBin op a b2 = .ok nb → sb nb = .ok b' → mkBin op b1 b' = .ok r →
      ReassocStep op sb a b r
  | both {ta tb a1 a2 b1 b2 x1 x2 y1 y2 a' b'} : a = .bin ta op a1 a2 → b = .bin tb op b1 b2 →
      ReassocFirst op sb a1 a2 b1 b2 a b x1 x2 y1 y2 a' b' → mkBin op a' b' = .ok r → ReassocStep op sb a b r
  | bothSwap {ta tb a1 a2 b1 b2 x1 x2 y1 y2 a' b' na nb a'' b''} : a = .bin ta op a1 a2 → b = .bin tb op b1 b2 →
      ReassocFirst op sb a1 a2 b1 b2 a b x1 x2 y1 y2 a' b' → mkBin op y1 x1 = .ok na → sb na = .ok a'' →
      mkBin op x2 y2 = .ok nb → sb nb = .ok b'' → mkBin op a'' b'' = .ok r → ReassocStep op sb a b r

theorem reassoc_ok {op : String} {sb : Expr → M Expr} {a b r : Expr} (h : reassoc op sb a b = .ok r) :
    ReassocStep op sb a b r := by
  unfold reassoc at h
  cases hsa : sameOp op a with
  | none =>
    cases hsb : sameOp op b with
    | none => rw [hsa, hsb] at h; exact .keep h
    | some pb =>
      obtain ⟨b1, b2⟩ := pb
      rw [hsa, hsb] at h
      rcases ite_eq h with ⟨-, h⟩ | ⟨-, h⟩
      · obtain ⟨nb, hnb, h⟩ := bind_ok h
        obtain ⟨b', hb', h⟩ := bind_ok h
        obtain ⟨tb, hb⟩ := sameOp_some hsb
        exact .right hb hnb hb' h
      · exact .keep h
  | some pa =>
    obtain ⟨a1, a2⟩ := pa
    cases hsb : sameOp op b with
    | none =>
      rw [hsa, hsb] at h
      rcases ite_eq h with ⟨-, h⟩ | ⟨-, h⟩
      · obtain ⟨na, hna, h⟩ := bind_ok h
        obtain ⟨a', ha', h⟩ := bind_ok h
        obtain ⟨ta, ha⟩ := sameOp_some hsa
        exact .left ha hna ha' h
      · exact .keep h
    | some pb =>
      obtain ⟨b1, b2⟩ := pb
      rw [hsa, hsb] at h
      obtain ⟨ta, ha⟩ := sameOp_some hsa
      obtain ⟨tb, hb⟩ := sameOp_some hsb
      obtain ⟨⟨x1, x2, y1, y2, a', b'⟩, htup, h⟩ := bind_ok h
      have hf : ReassocFirst op sb a1 a2 b1 b2 a b x1 x2 y1 y2 a' b' := by
        rcases ite_eq htup with ⟨-, htup⟩ | ⟨-, htup⟩
        · obtain ⟨na, hna, htup⟩ := bind_ok htup
          obtain ⟨ra, hra, htup⟩ := bind_ok htup
          obtain ⟨nb, hnb, htup⟩ := bind_ok htup
          obtain ⟨rb, hrb, htup⟩ := bind_ok htup
          cases htup
          exact .swap hna hra hnb hrb
        · cases htup
          exact .keep
      rcases ite_eq h with ⟨-, h⟩ | ⟨-, h⟩
      · obtain ⟨na, hna, h⟩ := bind_ok h
        obtain ⟨ra, hra, h⟩ := bind_ok h
        obtain ⟨nb, hnb, h⟩ := bind_ok h
        obtain ⟨rb, hrb, h⟩ := bind_ok h
        exact .bothSwap ha hb hf hna hra hnb hrb h
      · exact .both ha hb hf h

inductive MulStep (f : Nat) (expr a b r : Expr) : Prop
  | rightOne {y} : litVal? b = some y → isOne y = true → r = a → MulStep f expr a b r
  | rightZero {y} : litVal? b = some y → isZero y = true → r = b → MulStep f expr a b r
  | leftOne {x} : litVal? a = some x → isOne x = true → r = b → MulStep f expr a b r
  | leftZero {x} : litVal? a = some x → isZero x = true → r = a → MulStep f expr a b r
  | fold {x y v} : litVal? a = some x → litVal? b = some y → pyMul x y = .ok v → litNumber v = .ok r → MulStep f expr a b r
  | minusOne {y t a'} : litVal? b = some y → isMinusOne y = true → mkMinus a = .ok (.un t "-" a') →
      simpNeg f (.un t "-" a') a' = .ok r → MulStep f expr a b r
  | cancelLeft {t y} : a = .bin t "/" r y → (y == b) = true → MulStep f expr a b r
  | cancelRight {t y} : b = .bin t "/" r y → (y == a) = true → MulStep f expr a b r
  | same : r = expr → MulStep f expr a b r

theorem simpMultiplication_ok {f : Nat} {expr a b r : Expr} (h : simpMultiplication (f + 1) expr a b = .ok r) :
    MulStep f expr a b r := by
  have tail : ∀ {r}, (match isDivision b with
      | some (x', y') => if y' == a then (.ok x' : M Expr) else .ok expr
      | none => .ok expr) = .ok r → MulStep f expr a b r := by
    intro r h
    cases hb : isDivision b with
    | none => rw [hb] at h; cases h; exact .same rfl
    | some p =>
      obtain ⟨x', y'⟩ := p
      rw [hb] at h
      rcases ite_eq h with ⟨hc, h⟩ | ⟨-, h⟩
      · cases h
        obtain ⟨t, hs⟩ := isDivision_some hb
        exact .cancelRight hs hc
      · cases h; exact .same rfl
  have divRules : ∀ {r}, (match isDivision a with
      | some (x, y) => if y == b then (.ok x : M Expr) else
          (match isDivision b with | some (x', y') => if y' == a then .ok x' else .ok expr | none => .ok expr)
      | none => match isDivision b with | some (x', y') => if y' == a then .ok x' else .ok expr | none => .ok expr) = .ok r →
      MulStep f expr a b r := by
    intro r h
    cases ha : isDivision a with
    | none => rw [ha] at h; exact tail h
    | some p =>
      obtain ⟨x, y⟩ := p
      rw [ha] at h
      rcases ite_eq h with ⟨hc, h⟩ | ⟨-, h⟩
      · cases h
        obtain ⟨t, hs⟩ := isDivision_some ha
        exact .cancelLeft hs hc
      · exact tail h
  change (match litVal? b with | some y => _ | none => _) = _ at h
  cases hb : litVal? b with
  | none => rw [hb] at h; exact divRules h
  | some y =>
    rw [hb] at h
    rcases ite_eq h with ⟨hc, h⟩ | ⟨-, h⟩
    · cases h; exact .rightOne hb hc rfl
    rcases ite_eq h with ⟨hc, h⟩ | ⟨-, h⟩
    · cases h; exact .rightZero hb hc rfl
    cases ha : litVal? a with
    | some x =>
      rw [ha] at h
      rcases ite_eq h with ⟨hc, h⟩ | ⟨-, h⟩
      · cases h; exact .leftOne ha hc rfl
      rcases ite_eq h with ⟨hc, h⟩ | ⟨-, h⟩
      · cases h; exact .leftZero ha hc rfl
      obtain ⟨v, hv, h⟩ := bind_ok h
      exact .fold ha hb hv h
    | none =>
      rw [ha] at h
      rcases ite_eq h with ⟨hc, h⟩ | ⟨-, h⟩
      · obtain ⟨m, hm, h⟩ := bind_ok h
        obtain ⟨t, a', rfl⟩ := mkUn_shape hm
        exact .minusOne hb hc hm h
      · exact divRules h

inductive BinStep (f : Nat) (t : DataType) (a b r : Expr) : String → Prop
  | conj : simpConjunction (.bin t "and" a b) a b = .ok r → BinStep f t a b r "and"
  | disj : simpDisjunction (.bin t "or" a b) a b = .ok r → BinStep f t a b r "or"
  | implSelf : (a == b) = true → r = trueLit → BinStep f t a b r "implies"
  | impl {na d} : ¬(a == b) = true → mkNot a = .ok na → mkOr na b = .ok d → simp f d = .ok r → BinStep f t a b r "implies"
  | iff : (if a == b then pure trueLit
           else if obviouslyDifferent a b then pure falseLit
           else do
             let i1 ← mkImplies a b; let i2 ← mkImplies b a
             let c ← mkAnd i1 i2
             simp f c) = .ok r → BinStep f t a b r "iff"
  | cmp {op} : op = "=" ∨ op = "!=" ∨ op = "<" ∨ op = "<=" ∨ op = ">" ∨ op = ">=" →
      simpComparison (.bin t op a b) op a b = .ok r → BinStep f t a b r op
  | add : simpAddition (.bin t "+" a b) a b = .ok r → BinStep f t a b r "+"
  | sub : simpSubtraction (.bin t "-" a b) a b = .ok r → BinStep f t a b r "-"
  | mul : simpMultiplication f (.bin t "*" a b) a b = .ok r → BinStep f t a b r "*"
  | div : simpDivision (.bin t "/" a b) a b = .ok r → BinStep f t a b r "/"
  | pow : simpExponentiation (.bin t "**" a b) a b = .ok r → BinStep f t a b r "**"
  | other {op} : r = .bin t op a b → BinStep f t a b r op

theorem simpBinop_ok {f : Nat} {e r : Expr} (h : simpBinop (f + 1) e = .ok r) :
    ∃ t op a b, preBinop f e = .ok (.bin t op a b) ∧ BinStep f t a b r op := by
  obtain ⟨e', he', h⟩ := bind_ok h
  cases e' with
  | bin t op a b =>
    refine ⟨t, op, a, b, he', ?_⟩
    -- `replace`, not `rcases ite_beq h`: substituting `op` reorders the context, and a stale copy of `h` would be picked up
    replace h := ite_beq h
    rcases h with ⟨rfl, h⟩ | h
    · exact .conj h
    replace h := ite_beq h
    rcases h with ⟨rfl, h⟩ | h
    · exact .disj h
    replace h := ite_beq h
    rcases h with ⟨rfl, h⟩ | h
    · rcases ite_eq h with ⟨heq, h⟩ | ⟨hne, h⟩
      · cases h; exact .implSelf heq rfl
      · obtain ⟨na, hna, h⟩ := bind_ok h
        obtain ⟨d, hd, h⟩ := bind_ok h
        exact .impl hne hna hd h
    replace h := ite_beq h
    rcases h with ⟨rfl, h⟩ | h
    · exact .iff h
    rcases ite_eq h with ⟨ho, h⟩ | ⟨-, h⟩
    · exact .cmp (by simpa [or_assoc] using ho) h
    replace h := ite_beq h
    rcases h with ⟨rfl, h⟩ | h
    · exact .add h
    replace h := ite_beq h
    rcases h with ⟨rfl, h⟩ | h
    · exact .sub h
    replace h := ite_beq h
    rcases h with ⟨rfl, h⟩ | h
    · exact .mul h
    replace h := ite_beq h
    rcases h with ⟨rfl, h⟩ | h
    · exact .div h
    replace h := ite_beq h
    rcases h with ⟨rfl, h⟩ | h
    · exact .pow h
    · cases h; exact .other rfl
  | _ => cases h

/-- the simplified first argument of a call (`IndexError` when there is none) -/
def simpArg0 (f : Nat) : ExprList → M Expr
  | .cons a _ => simp f a
  | .nil => .error .index

/-- the `max` / `min` branch of `simpCall` -/
def minMaxRule (f : Nat) (call : Expr) (fn : String) (args : ExprList) : M Expr :=
  match args with
  | .cons a0 .nil => do
      let a ← simp f a0
      match a with
      | .range _ lo hi exLo exHi => (match numLit? lo, numLit? hi with
          | some l, some h => do
              let li ← pyInt l; let hi' ← pyInt h
              let lb := li + (if exLo then 1 else 0)
              let ub := hi' - (if exHi then 1 else 0)
              if lb < ub then litNumber (.int (if fn == "max" then ub else lb)) else pure call
          | _, _ => pure call)
      | .set _ vs => foldMinMax call fn (fn == "max") vs.toList
      | _ => pure call
  | _ => foldMinMax call fn (fn == "max") args.toList

section
variable (f : Nat) (call : Expr) (args : ExprList)

theorem simpCall_abs : simpCall (f + 1) call "abs" args = (do
    let a ← simpArg0 f args
    match numLit? a with | some v => do let r ← pyAbs v; litNumber r | none => pure call) := by rfl

theorem simpCall_bool : simpCall (f + 1) call "bool" args = (do
    let a ← simpArg0 f args
    match litVal? a with | some v => pure (litBool (pyTruthy v)) | none => pure call) := by rfl

theorem simpCall_int : simpCall (f + 1) call "int" args = (do
    let a ← simpArg0 f args
    match litVal? a with | some v => do let n ← pyInt v; litNumber (.int n) | none => pure call) := by rfl

theorem simpCall_float : simpCall (f + 1) call "float" args = (do
    let a ← simpArg0 f args
    match litVal? a with
    | some (.str sv) => do let v ← pyFloatOfStr sv; litNumber v
    | some v => (match v.toRat? with | some q => litNumber (.flt q) | none => litNumber v)
    | none => pure call) := by rfl

theorem simpCall_str : simpCall (f + 1) call "str" args = (do
    let a ← simpArg0 f args
    match litVal? a with
    | some v => do let s ← pyStr v; (if s == "<float>" then unmodelled else pure (litString s))
    | none => pure call) := by rfl

theorem simpCall_len : simpCall (f + 1) call "len" args = (do
    let a ← simpArg0 f args
    match a with
    | .set _ vs => (match litVals? vs with
        | some ls => litNumber (.int (distinctVals ls).length)
        | none => pure call)
    | .range _ lo hi exLo exHi => (match numLit? lo, numLit? hi with
        | some l, some h => do let (lb, ub) ← rangeBounds l h exLo exHi; litNumber (.int (ub - lb).toNat)
        | _, _ => pure call)
    | .lit _ _ (.str s) => litNumber (.int s.length)
    | _ => pure call) := by rfl

theorem simpCall_sum : simpCall (f + 1) call "sum" args = (do
    let a ← simpArg0 f args
    match a with
    | .set _ vs => (match numLitVals? vs with
        | some ls => do let v ← sumVals (distinctVals ls); litNumber v
        | none => pure call)
    | .range _ lo hi exLo exHi => (match numLit? lo, numLit? hi with
        | some l, some h => do let (lb, ub) ← rangeBounds l h exLo exHi; litNumber (.int ((intRange lb ub).foldl (· + ·) 0))
        | _, _ => pure call)
    | _ => pure call) := by rfl

theorem simpCall_prod : simpCall (f + 1) call "prod" args = (do
    let a ← simpArg0 f args
    match a with
    | .set _ vs =>
        if vs.toList.any (fun v => match numLit? v with | some x => isZero x | none => false) then litNumber (.int 0)
        else (match numLitVals? vs with
          | some ls => do let v ← prodVals (distinctVals ls); litNumber v
          | none => pure call)
    | .range _ lo hi exLo exHi => (match numLit? lo, numLit? hi with
        | some l, some h => do
            let (lb, ub) ← rangeBounds l h exLo exHi
            if ub - lb > 64 then unmodelled else litNumber (.int ((intRange lb ub).foldl (· * ·) 1))
        | _, _ => pure call)
    | _ => pure call) := by rfl

theorem simpCall_max : simpCall (f + 1) call "max" args = minMaxRule f call "max" args := by rfl
theorem simpCall_min : simpCall (f + 1) call "min" args = minMaxRule f call "min" args := by rfl

theorem simpCall_gcd : simpCall (f + 1) call "gcd" args =
    (match args with
    | .cons a0 (.cons a1 .nil) => do
        let x ← simp f a0; let y ← simp f a1
        match numLit? x, numLit? y with
        | some (.int m), some (.int n) => litNumber (.int (Int.gcd m n))
        | some _, some _ => unmodelled
        | _, _ => pure call
    | _ => pure call) := by rfl

theorem simpCall_ceil : simpCall (f + 1) call "ceil" args = (do
    let a ← simpArg0 f args
    match numLit? a with
    | some v => (match v.toRat? with | some q => litNumber (.int q.ceil) | none => unmodelled)
    | none => pure call) := by rfl

theorem simpCall_floor : simpCall (f + 1) call "floor" args = (do
    let a ← simpArg0 f args
    match numLit? a with
    | some v => (match v.toRat? with | some q => litNumber (.int q.floor) | none => unmodelled)
    | none => pure call) := by rfl

theorem simpCall_opaque {fn : String} (h : fn ∈ opaqueFuns) : simpCall (f + 1) call fn args = (do
    let a ← simpArg0 f args
    match numLit? a with | some _ => unmodelled | none => pure call) := by
  simp only [opaqueFuns, List.mem_cons, List.not_mem_nil, or_false] at h
  rcases h with rfl | rfl | rfl | rfl | rfl | rfl | rfl | rfl | rfl <;> rfl

theorem simpCall_two {fn : String} (h : fn = "atan2" ∨ fn = "log") : simpCall (f + 1) call fn args =
    (match args with
    | .cons a0 (.cons a1 _) => do
        let x ← simp f a0; let y ← simp f a1
        match numLit? x, numLit? y with | some _, some _ => unmodelled | _, _ => pure call
    | _ => .error .index) := by
  rcases h with rfl | rfl <;> rfl

end

/-- the function names `simpCall` has a folding rule for -/
def foldedFuns : List String :=
  ["abs", "bool", "int", "float", "str", "len", "sum", "prod", "max", "min", "gcd", "ceil", "floor", "atan2", "log"] ++ opaqueFuns

theorem simpCall_other (f : Nat) (call : Expr) (args : ExprList) {fn : String} (h : fn ∉ foldedFuns) :
    simpCall (f + 1) call fn args = .ok call := by
  simp only [foldedFuns, List.mem_append, List.mem_cons, List.not_mem_nil, or_false, not_or] at h
  obtain ⟨⟨h1, h2, h3, h4, h5, h6, h7, h8, h9, h10, h11, h12, h13, h14, h15⟩, hq⟩ := h
  show (if fn == "abs" then _ else _) = _
  simp only [beq_iff_eq, Bool.or_eq_true, h1, h2, h3, h4, h5, h6, h7, h8, h9, h10, h11, h12, h13, h14, h15, hq, List.contains_eq_mem,
    decide_false, or_self, Bool.false_eq_true, ↓reduceIte, pure, Except.pure]

end Hpl
