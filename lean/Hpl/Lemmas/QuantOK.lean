import Hpl.Model.BuildProp
import Hpl.Props.C15
import Hpl.Props.C02
import Hpl.Props.C03
/-! The constructors establish the quantifier invariant `quantOK` (every quantifier's variable occurs free below it)
    that C15's `externalRefs_eq` and C02's `sanityCheck_ok_iff` assume: `build_quantOK`, `buildSimple_EvOK`. -/
namespace Hpl

theorem withTy_quantOK (t : DataType) (e : Expr) : (e.withTy t).quantOK ↔ e.quantOK := by
  cases e <;> exact Iff.rfl

theorem castE_quantOK {e e' : Expr} {t : DataType} (h : castE e t = .ok e') (hq : e.quantOK) : e'.quantOK := by
  obtain ⟨_, _, rfl⟩ := castE_ok h
  exact (withTy_quantOK _ _).2 hq

theorem withTy_freeVars (t : DataType) (e : Expr) : (e.withTy t).freeVars = e.freeVars := by
  cases e <;> rfl

theorem withTy_preorder_tail (t : DataType) (e : Expr) : (e.withTy t).preorder.tail = e.preorder.tail := by
  cases e <;> rfl

/-! A variable that occurs and is nowhere re-bound occurs free: the statement, for the nodes `l` of some subtrees and
    their free variables `f`, passes through concatenation and through a parent node that is no occurrence itself. -/

theorem occurs_append {x : String} {l1 l2 : List Expr} {f1 f2 : List String}
    (h1 : (∀ v ∈ l1, bindsName x v = false) → l1.any (isVarNamed x) = true → x ∈ f1)
    (h2 : (∀ v ∈ l2, bindsName x v = false) → l2.any (isVarNamed x) = true → x ∈ f2) :
    (∀ v ∈ l1 ++ l2, bindsName x v = false) → (l1 ++ l2).any (isVarNamed x) = true → x ∈ f1 ++ f2 := by
  intro hb h
  rw [List.any_append, Bool.or_eq_true] at h
  exact List.mem_append.2 (h.imp (h1 fun v hv => hb v (List.mem_append_left _ hv)) (h2 fun v hv => hb v (List.mem_append_right _ hv)))

theorem occurs_cons {x : String} {n : Expr} {l : List Expr} {f : List String} (hn : isVarNamed x n = false)
    (h : (∀ v ∈ l, bindsName x v = false) → l.any (isVarNamed x) = true → x ∈ f) :
    (∀ v ∈ n :: l, bindsName x v = false) → (n :: l).any (isVarNamed x) = true → x ∈ f := by
  intro hb ha
  rw [List.any_cons, hn, Bool.false_or] at ha
  exact h (fun v hv => hb v (List.mem_cons_of_mem _ hv)) ha

mutual
theorem occurs_free (x : String) : ∀ e : Expr, (∀ v ∈ e.preorder, bindsName x v = false) →
    e.preorder.any (isVarNamed x) = true → x ∈ e.freeVars
  | .lit .. | .this .. => occurs_cons rfl (fun _ h => by cases h)
  | .var _ y => fun _ h => by
      have h : (x == y || false) = true := h
      rw [Bool.or_false] at h
      exact eq_of_beq h ▸ List.mem_singleton_self _
  | .set _ vs => occurs_cons rfl (occurs_freeL x vs)
  | .range _ lo hi _ _ => occurs_cons rfl (occurs_append (occurs_free x lo) (occurs_free x hi))
  | .quant ty q y d b => fun hb h => by
      have hxy : x ≠ y := fun e => Bool.noConfusion ((beq_iff_eq.2 e).symm.trans (hb (.quant ty q y d b) List.mem_cons_self))
      exact List.mem_filter.2 ⟨occurs_cons rfl (occurs_append (occurs_free x d) (occurs_free x b)) hb h, by simpa using hxy⟩
  | .un _ _ a => occurs_cons rfl (occurs_free x a)
  | .bin _ _ a b => occurs_cons rfl (occurs_append (occurs_free x a) (occurs_free x b))
  | .call _ _ as => occurs_cons rfl (occurs_freeL x as)
  | .field _ m _ => occurs_cons rfl (occurs_free x m)
  | .index _ a i => occurs_cons rfl (occurs_append (occurs_free x a) (occurs_free x i))
theorem occurs_freeL (x : String) : ∀ es : ExprList, (∀ v ∈ es.preorder, bindsName x v = false) →
    es.preorder.any (isVarNamed x) = true → x ∈ es.freeVars
  | .nil => fun _ h => by cases h
  | .cons e es => occurs_append (occurs_free x e) (occurs_freeL x es)
end

theorem mkQuant_quantOK {q : Quant} {x : String} {dom body e : Expr} (h : mkQuant q x dom body = .ok e)
    (hd : dom.quantOK) (hb : body.quantOK) : e.quantOK := by
  obtain ⟨d, b, _, hd', hb', _, _, _, rfl⟩ := mkQuant_ok h
  obtain ⟨_, _, he, _, hnb, huse⟩ := mkQuant_hygiene h
  cases he
  exact ⟨List.mem_append.2 (.inr (occurs_free x _ hnb huse)), castE_quantOK hd' hd, castE_quantOK hb' hb⟩

theorem castList_quantOK : ∀ {t : DataType} {vs vs' : ExprList}, castList t vs = .ok vs' → vs.quantOK → vs'.quantOK
  | _, .nil, vs', h, _ => by cases h; trivial
  | t, .cons e es, vs', h, hq => by
      obtain ⟨e', he', h⟩ := bind_ok h
      obtain ⟨es', hes', h⟩ := bind_ok h
      cases h
      exact ⟨castE_quantOK he' hq.1, castList_quantOK hes' hq.2⟩

theorem castArgs_quantOK : ∀ {args : ExprList} {ts : List DataType} {args' : ExprList},
    castArgs args ts = .ok args' → args.quantOK → args'.quantOK
  | .nil, ts, args', h, _ => by cases ts <;> (cases h; trivial)
  | .cons e es, [], args', h, _ => by cases h; trivial
  | .cons e es, t :: ts, args', h, hq => by
      obtain ⟨e', he', h⟩ := bind_ok h
      obtain ⟨es', hes', h⟩ := bind_ok h
      cases h
      exact ⟨castE_quantOK he' hq.1, castArgs_quantOK hes' hq.2⟩

theorem mkCall_quantOK {f : String} {args : ExprList} {e : Expr} (h : mkCall f args = .ok e) (ha : args.quantOK) : e.quantOK := by
  obtain ⟨_, _, _, _, _, hargs', rfl⟩ := mkCall_ok h
  exact castArgs_quantOK hargs' ha

theorem mkUn_quantOK {op : String} {a e : Expr} (h : mkUn op a = .ok e) (ha : a.quantOK) : e.quantOK := by
  obtain ⟨_, a', _, ha', rfl⟩ := mkUn_ok h
  show a'.quantOK
  exact castE_quantOK ha' ha

theorem mkBin_quantOK {op : String} {a b e : Expr} (h : mkBin op a b = .ok e) (ha : a.quantOK) (hb : b.quantOK) : e.quantOK := by
  obtain ⟨_, _, _, _, ha1, hb1, ⟨_, _, _, ha2, hb2, rfl⟩ | ⟨_, rfl⟩⟩ := mkBin_ok h
  · exact ⟨castE_quantOK ha2 (castE_quantOK ha1 ha), castE_quantOK hb2 (castE_quantOK hb1 hb)⟩
  · exact ⟨castE_quantOK ha1 ha, castE_quantOK hb1 hb⟩

theorem mkFieldT_quantOK {t : DataType} {m e : Expr} {n : String} (h : mkFieldT t m n = .ok e) (hm : m.quantOK) : e.quantOK := by
  obtain ⟨m', hm', rfl⟩ := mkFieldT_ok h
  show m'.quantOK
  exact castE_quantOK hm' hm

theorem mkIndexT_quantOK {t : DataType} {a i e : Expr} (h : mkIndexT t a i = .ok e) (ha : a.quantOK) (hi : i.quantOK) : e.quantOK := by
  obtain ⟨_, _, ha', hi', rfl⟩ := mkIndexT_ok h
  exact ⟨castE_quantOK ha' ha, castE_quantOK hi' hi⟩

theorem buildBoth_quantOK : (∀ r e, build r = .ok e → e.quantOK) ∧ (∀ rs es, buildList rs = .ok es → es.quantOK) :=
  build_induct (P := fun _ e => e.quantOK) (PL := fun _ es => es.quantOK)
    (lit := fun _ _ => trivial) (this := trivial) (var := fun _ => trivial)
    (set := fun _ hes h => by
      obtain ⟨_, hvs', rfl⟩ := mkSet_ok h
      exact castList_quantOK hvs' hes)
    (range := fun _ _ hlo hhi h => by
      obtain ⟨_, _, hlo', hhi', rfl⟩ := mkRange_ok h
      exact ⟨castE_quantOK hlo' hlo, castE_quantOK hhi' hhi⟩)
    (quant := fun _ _ hd hb h => mkQuant_quantOK h hd hb)
    (un := fun _ ha h => mkUn_quantOK h ha)
    (bin := fun _ _ ha hb h => mkBin_quantOK h ha hb)
    (call := fun _ has h => mkCall_quantOK h has)
    (field := fun _ hm h => mkFieldT_quantOK h hm)
    (index := fun _ _ ha hi h => mkIndexT_quantOK h ha hi)
    (nil := trivial) (cons := fun _ _ he hes => ⟨he, hes⟩)

/-- every tree the parser builds satisfies the quantifier invariant -/
theorem build_quantOK : ∀ (r : Raw) (e : Expr), build r = .ok e → e.quantOK := buildBoth_quantOK.1

theorem buildList_quantOK : ∀ (rs : RawList) (es : ExprList), buildList rs = .ok es → es.quantOK := buildBoth_quantOK.2

/-- `replace` and the capture-avoiding variable replacement keep the invariant (every changed parent is re-built by its
    constructor) -/
theorem subst_quantOK {other : Expr} (ho : other.quantOK) :
    (∀ test e e', substE test other e = .ok e' → e.quantOK → e'.quantOK) ∧
    (∀ test es es', substL test other es = .ok es' → es.quantOK → es'.quantOK) ∧
    (∀ a e e', substV a other e = .ok e' → e.quantOK → e'.quantOK) ∧
    (∀ a es es', substVL a other es = .ok es' → es.quantOK → es'.quantOK) :=
  subst_induct (P := fun e e' => e.quantOK → e'.quantOK) (PL := fun es es' => es.quantOK → es'.quantOK)
    (repl := fun _ _ => ho) (same := fun _ => id)
    (set := fun ih h hq => castList_quantOK h (ih hq))
    (range := fun i1 i2 h1 h2 hq => ⟨castE_quantOK h1 (i1 hq.1), castE_quantOK h2 (i2 hq.2)⟩)
    (quant := fun i1 i2 h hq => mkQuant_quantOK h (i1 hq.2.1) (i2 hq.2.2))
    (un := fun ih h hq => mkUn_quantOK h (ih hq))
    (bin := fun i1 i2 h hq => mkBin_quantOK h (i1 hq.1) (i2 hq.2))
    (call := fun ih h hq => mkCall_quantOK h (ih hq))
    (field := fun ih h hq => mkFieldT_quantOK h (ih hq))
    (index := fun i1 i2 h hq => mkIndexT_quantOK h (i1 hq.1) (i2 hq.2))
    (nil := id) (cons := fun i1 i2 hq => ⟨i1 hq.1, i2 hq.2⟩)

theorem substE_quantOK (test : Expr → Bool) (other : Expr) (ho : other.quantOK) :
    ∀ (e e' : Expr), substE test other e = .ok e' → e.quantOK → e'.quantOK := (subst_quantOK ho).1 test

theorem substL_quantOK (test : Expr → Bool) (other : Expr) (ho : other.quantOK) :
    ∀ (es es' : ExprList), substL test other es = .ok es' → es.quantOK → es'.quantOK := (subst_quantOK ho).2.1 test

theorem substV_quantOK (a : String) (other : Expr) (ho : other.quantOK) :
    ∀ (e e' : Expr), substV a other e = .ok e' → e.quantOK → e'.quantOK := (subst_quantOK ho).2.2.1 a

theorem substVL_quantOK (a : String) (other : Expr) (ho : other.quantOK) :
    ∀ (es es' : ExprList), substVL a other es = .ok es' → es.quantOK → es'.quantOK := (subst_quantOK ho).2.2.2 a

theorem mkPred_quantOK {e : Expr} {p : Pred} (h : mkPred e = .ok p) (hq : e.quantOK) : p.quantOK := by
  obtain ⟨_, he', _, rfl⟩ := mkPred_ok h
  exact castE_quantOK he' hq

theorem predFromExpr_quantOK {e : Expr} {p : Pred} (h : predFromExpr e = .ok p) (hq : e.quantOK) : p.quantOK := by
  rcases predFromExpr_ok h with ⟨_, _, _, _, rfl⟩ | h
  · split <;> trivial
  · exact mkPred_quantOK h hq

theorem Pred.replaceVar_quantOK {p p' : Pred} {a : String} {other : Expr} (ho : other.quantOK)
    (h : p.replaceVar a other = .ok p') (hq : p.quantOK) : p'.quantOK := by
  cases p with
  | expr e =>
    obtain ⟨e', he', h⟩ := bind_ok h
    rcases ite_eq h with ⟨_, h⟩ | ⟨_, h⟩
    · cases h; exact hq
    · exact mkPred_quantOK h (substV_quantOK _ _ ho e e' he' hq)
  | vtrue | vfalse => cases h; trivial

/-- a simple event built by the parser callback satisfies `EvOK` when its alias (if any) is a non-empty name -/
theorem buildSimple_EvOK {s : RawSimple} {e : Event} (h : buildSimple s = .ok e) (ha : ∀ a, s.alias = some a → a ≠ "") : EvOK e := by
  obtain ⟨p, hp, h⟩ := bind_ok h
  have hpq : p.quantOK := by
    cases hs : s.pred with
    | none => rw [hs] at hp; cases hp; trivial
    | some r =>
      rw [hs] at hp
      obtain ⟨e0, he0, hp⟩ := bind_ok hp
      exact predFromExpr_quantOK hp (build_quantOK r e0 he0)
  unfold mkSimpleEvent at h
  cases hal : s.alias with
  | none => rw [hal] at h; cases h; exact ⟨hpq, by simp [Event.aliases]⟩
  | some a =>
    rw [hal] at h
    rcases ite_eq h with ⟨_, h⟩ | ⟨hne, _⟩
    · obtain ⟨p', hp', h⟩ := bind_ok h
      cases h
      exact ⟨Pred.replaceVar_quantOK (by trivial) hp' hpq, by simpa [Event.aliases] using ha a hal⟩
    · exact absurd (ha a hal) hne

end Hpl
