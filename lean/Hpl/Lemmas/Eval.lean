import Hpl.Spec.Eval
import Hpl.Model.Rewrite.Refactor
import Hpl.Props.C03
/-! Lemmas about the reference evaluator used by C08–C10 and C13:
    * evaluation ignores the stored types, so narrowing (`castE`) and the smart constructors evaluate like the raw node;
    * in `Option` (all errors collapsed) strict evaluation is compositional and order-independent;
    * coincidence: the value depends only on the variables that occur. -/
namespace Hpl

section
variable (opq : Opaque)

/-! ### evaluation ignores stored types -/
theorem eval_withTy (ρ : Env) (t : DataType) (e : Expr) : eval opq ρ (e.withTy t) = eval opq ρ e := by
  cases e <;> rfl

theorem castE_eval {e e' : Expr} {t : DataType} (h : castE e t = .ok e') (ρ : Env) : eval opq ρ e' = eval opq ρ e := by
  obtain ⟨_, _, rfl⟩ := castE_ok h
  exact eval_withTy opq ρ _ e

theorem castList_evalList : ∀ {t : DataType} {vs vs' : ExprList}, castList t vs = .ok vs' → ∀ ρ, evalList opq ρ vs' = evalList opq ρ vs
  | _, .nil, vs', h, ρ => by cases h; rfl
  | t, .cons e es, vs', h, ρ => by
      obtain ⟨e', he', h⟩ := bind_ok h
      obtain ⟨es', hes', h⟩ := bind_ok h
      cases h
      simp only [evalList, castE_eval opq he', castList_evalList hes']

theorem castArgs_evalList : ∀ {args : ExprList} {ts : List DataType} {args' : ExprList},
    castArgs args ts = .ok args' → args.length ≤ ts.length → ∀ ρ, evalList opq ρ args' = evalList opq ρ args
  | .nil, ts, args', h, _, ρ => by cases ts <;> (cases h; rfl)
  | .cons e es, [], args', h, hl, ρ => nomatch hl
  | .cons e es, t :: ts, args', h, hl, ρ => by
      obtain ⟨e', he', h⟩ := bind_ok h
      obtain ⟨es', hes', h⟩ := bind_ok h
      cases h
      have := castArgs_evalList hes' (Nat.le_of_succ_le_succ hl) ρ
      simp only [evalList, castE_eval opq he', this]

/-! ### the smart constructors return the raw node over narrowed operands, and so evaluate like it -/
theorem castE_withTy {e e' : Expr} {t : DataType} (h : castE e t = .ok e') : ∃ t', e' = e.withTy t' :=
  ⟨_, (castE_ok h).2.2⟩

theorem withTy_withTy (t t' : DataType) (e : Expr) : (e.withTy t).withTy t' = e.withTy t' := by
  cases e <;> rfl

theorem mkUn_narrow {op : String} {a e : Expr} (h : mkUn op a = .ok e) : ∃ t ta, e = .un t op (a.withTy ta) := by
  obtain ⟨d, a', _, ha', rfl⟩ := mkUn_ok h
  obtain ⟨ta, rfl⟩ := castE_withTy ha'
  exact ⟨_, ta, rfl⟩

theorem mkBin_narrow {op : String} {a b e : Expr} (h : mkBin op a b = .ok e) :
    ∃ t ta tb, e = .bin t op (a.withTy ta) (b.withTy tb) := by
  obtain ⟨d, a1, b1, _, ha1, hb1, ⟨_, a2, b2, ha2, hb2, rfl⟩ | ⟨_, rfl⟩⟩ := mkBin_ok h
  all_goals
    obtain ⟨_, rfl⟩ := castE_withTy ha1
    obtain ⟨_, rfl⟩ := castE_withTy hb1
  · obtain ⟨_, rfl⟩ := castE_withTy ha2
    obtain ⟨_, rfl⟩ := castE_withTy hb2
    exact ⟨_, _, _, by rw [withTy_withTy, withTy_withTy]⟩
  · exact ⟨_, _, _, rfl⟩

theorem mkQuant_narrow {q : Quant} {x : String} {d b e : Expr} (h : mkQuant q x d b = .ok e) :
    ∃ td tb, e = .quant T.BOOL q x (d.withTy td) (b.withTy tb) := by
  obtain ⟨d', b', _, hd', hb', _, _, _, rfl⟩ := mkQuant_ok h
  obtain ⟨td, rfl⟩ := castE_withTy hd'
  obtain ⟨tb, rfl⟩ := castE_withTy hb'
  exact ⟨td, tb, rfl⟩

theorem mkUn_eval {op : String} {a e : Expr} (h : mkUn op a = .ok e) (ρ : Env) :
    eval opq ρ e = (do let v ← eval opq ρ a; unOp op v) := by
  obtain ⟨t, ta, rfl⟩ := mkUn_narrow h
  rw [eval, eval_withTy]

theorem mkBin_eval {op : String} {a b e : Expr} (h : mkBin op a b = .ok e) (ρ : Env) :
    eval opq ρ e = (do let x ← eval opq ρ a; let y ← eval opq ρ b; binOp op x y) := by
  obtain ⟨t, ta, tb, rfl⟩ := mkBin_narrow h
  rw [eval, eval_withTy, eval_withTy]

theorem mkBin_shape {op : String} {a b e : Expr} (h : mkBin op a b = .ok e) : ∃ t a' b', e = .bin t op a' b' :=
  let ⟨t, _, _, he⟩ := mkBin_narrow h
  ⟨t, _, _, he⟩

theorem mkQuant_eval {q : Quant} {x : String} {d b e : Expr} (h : mkQuant q x d b = .ok e) (ρ : Env) :
    eval opq ρ e = eval opq ρ (.quant T.BOOL q x d b) := by
  obtain ⟨td, tb, rfl⟩ := mkQuant_narrow h
  simp only [eval, eval_withTy]

theorem mkCall_narrow {f : String} {args : ExprList} {e : Expr} (h : mkCall f args = .ok e) :
    ∃ t args', e = .call t f args' ∧ ∃ ts, castArgs args ts = .ok args' ∧ args.length ≤ ts.length := by
  obtain ⟨d, s, args', _, hs, hargs', rfl⟩ := mkCall_ok h
  have hmem : s ∈ d.overloads.filter (·.accepts args.tys) := by rw [hs]; exact .head _
  obtain ⟨har1, _⟩ := accepts_arity (List.mem_filter.1 hmem).2
  rw [ExprList.tys_length] at har1
  exact ⟨_, args', rfl, _, hargs', Nat.le_of_eq (paramsFor_length s _ har1).symm⟩

theorem mkCall_eval {f : String} {args : ExprList} {e : Expr} (h : mkCall f args = .ok e) (ρ : Env) :
    eval opq ρ e = (do let xs ← evalList opq ρ args; applyFun opq f xs) := by
  obtain ⟨t, args', rfl, ts, hc, hl⟩ := mkCall_narrow h
  rw [eval, castArgs_evalList opq hc hl]

end
/-! ### Option-level (error-collapsed) semantics -/

theorem toOption_bind {ε α β : Type} (x : Except ε α) (f : α → Except ε β) :
    (x >>= f).toOption = x.toOption.bind (fun a => (f a).toOption) := by
  cases x <;> rfl

theorem toOption_ok {ε α : Type} (a : α) : (Except.ok a : Except ε α).toOption = some a := rfl
theorem toOption_error {ε α : Type} (e : ε) : (Except.error e : Except ε α).toOption = none := rfl
theorem toOption_pure {ε α : Type} (a : α) : (pure a : Except ε α).toOption = some a := rfl

theorem toOption_eq_some {ε α : Type} {x : Except ε α} {a : α} : x.toOption = some a ↔ x = .ok a := by
  cases x <;> simp [Except.toOption]

theorem toOption_mapM {ε α β : Type} (f : α → Except ε β) : ∀ (l : List α),
    (l.mapM f).toOption = l.mapM (fun a => (f a).toOption)
  | [] => rfl
  | a :: l => by
      have ih := toOption_mapM f l
      rw [List.mapM_cons, List.mapM_cons, ← ih]
      cases h : f a with
      | error e => rfl
      | ok b => cases hl : l.mapM f <;> rfl

section
variable (opq : Opaque)

def evalO (ρ : Env) (e : Expr) : Option Value := (eval opq ρ e).toOption
/-- truth value of a boolean expression, `none` when evaluation fails or the value is not a boolean -/
def truth (ρ : Env) (e : Expr) : Option Bool := (eval opq ρ e >>= asBool).toOption

theorem truth_eq (ρ : Env) (e : Expr) : truth opq ρ e = (evalO opq ρ e).bind (fun v => (asBool v).toOption) := by
  unfold truth evalO; rw [toOption_bind]

theorem asBool_toOption_bool (b : Bool) : (asBool (Value.bool b)).toOption = some b := rfl

theorem truth_eq_some {ρ : Env} {e : Expr} {b : Bool} : truth opq ρ e = some b ↔ eval opq ρ e = .ok (Value.bool b) := by
  unfold truth
  rw [toOption_eq_some]
  cases h : eval opq ρ e with
  | error x => simp [bind, Except.bind]
  | ok v =>
    simp only [bind, Except.bind]
    cases v with
    | prim p => cases p <;> simp [asBool, Value.bool]
    | _ => simp [asBool, Value.bool]

/-! #### connectives -/
theorem not_ne_minus : (Gen.NOT_OPERATOR == "-") = false := by decide

theorem truth_not (ρ : Env) (t : DataType) (p : Expr) :
    truth opq ρ (.un t Gen.NOT_OPERATOR p) = (truth opq ρ p).map (!·) := by
  unfold truth
  simp only [eval, unOp, beq_self_eq_true, ↓reduceIte]
  cases eval opq ρ p with
  | error x => rfl
  | ok v =>
    cases v with
    | prim pr => cases pr <;> rfl
    | _ => rfl

/-- the four boolean connectives, as a function on truth values -/
def boolOp (op : String) : Option (Bool → Bool → Bool) :=
  if op == Gen.AND_OPERATOR then some (· && ·)
  else if op == Gen.OR_OPERATOR then some (· || ·)
  else if op == Gen.IMPLIES_OPERATOR then some (fun a b => !a || b)
  else if op == Gen.IFF_OPERATOR then some (fun a b => a == b)
  else none

theorem binOp_bool {op : String} {f : Bool → Bool → Bool} (h : boolOp op = some f) (a b : Value) :
    binOp op a b = (do let x ← asBool a; let y ← asBool b; pure (Value.bool (f x y))) := by
  unfold boolOp at h
  unfold binOp
  rcases ite_eq h with ⟨h1, h⟩ | ⟨h1, h⟩
  · cases h
    rw [if_pos h1]
  · rw [if_neg h1]
    rcases ite_eq h with ⟨h2, h⟩ | ⟨h2, h⟩
    · cases h
      rw [if_pos h2]
    · rw [if_neg h2]
      rcases ite_eq h with ⟨h3, h⟩ | ⟨h3, h⟩
      · cases h
        rw [if_pos h3]
      · rw [if_neg h3]
        rcases ite_eq h with ⟨h4, h⟩ | ⟨h4, h⟩
        · cases h
          rw [if_pos h4]
        · cases h

theorem truth_boolOp {op : String} {f : Bool → Bool → Bool} (h : boolOp op = some f) (ρ : Env) (t : DataType) (p q : Expr) :
    truth opq ρ (.bin t op p q) = (do let a ← truth opq ρ p; let b ← truth opq ρ q; pure (f a b)) := by
  unfold truth
  rw [eval]
  cases eval opq ρ p with
  | error x => cases eval opq ρ q <;> rfl
  | ok v =>
    cases eval opq ρ q with
    | error x =>
      show _ = (asBool v).toOption.bind _
      cases asBool v <;> rfl
    | ok w =>
      show (binOp op v w >>= asBool).toOption = (asBool v).toOption.bind fun a => (asBool w).toOption.bind fun b => some (f a b)
      rw [binOp_bool h]
      cases asBool v <;> cases asBool w <;> rfl

theorem boolOp_and : boolOp Gen.AND_OPERATOR = some (· && ·) := by simp [boolOp]
theorem boolOp_or : boolOp Gen.OR_OPERATOR = some (· || ·) := by simp [boolOp, Gen.OR_OPERATOR, Gen.AND_OPERATOR]
theorem boolOp_implies : boolOp Gen.IMPLIES_OPERATOR = some (fun a b => !a || b) := by simp [boolOp, Gen.OR_OPERATOR, Gen.AND_OPERATOR, Gen.IMPLIES_OPERATOR]
theorem boolOp_iff : boolOp Gen.IFF_OPERATOR = some (fun a b => a == b) := by simp [boolOp, Gen.OR_OPERATOR, Gen.AND_OPERATOR, Gen.IMPLIES_OPERATOR, Gen.IFF_OPERATOR]

theorem truth_and (ρ : Env) (t : DataType) (p q : Expr) :
    truth opq ρ (.bin t Gen.AND_OPERATOR p q) = (do let a ← truth opq ρ p; let b ← truth opq ρ q; pure (a && b)) :=
  truth_boolOp opq boolOp_and ρ t p q
theorem truth_or (ρ : Env) (t : DataType) (p q : Expr) :
    truth opq ρ (.bin t Gen.OR_OPERATOR p q) = (do let a ← truth opq ρ p; let b ← truth opq ρ q; pure (a || b)) :=
  truth_boolOp opq boolOp_or ρ t p q
theorem truth_implies (ρ : Env) (t : DataType) (p q : Expr) :
    truth opq ρ (.bin t Gen.IMPLIES_OPERATOR p q) = (do let a ← truth opq ρ p; let b ← truth opq ρ q; pure (!a || b)) :=
  truth_boolOp opq boolOp_implies ρ t p q

theorem truth_lit_bool (ρ : Env) (t : DataType) (k : String) (b : Bool) : truth opq ρ (.lit t k (.bool b)) = some b := rfl

/-! #### quantifiers -/
/-- the elements a domain expression ranges over -/
def domElems (ρ : Env) (d : Expr) : Option (List Value) := (evalO opq ρ d).bind (fun dv => (elems dv).toOption)

theorem quant_do_toOption (X : EM Value) (F : Value → EM (List Value)) (G : List Value → EM (List Bool)) (q : Quant) :
    ((do let dv ← X; let es ← F dv; let bs ← G es; pure (Value.bool (quantResult q bs)) : EM Value) >>= asBool).toOption
      = ((X.toOption.bind fun dv => (F dv).toOption).bind fun es => (G es).toOption.map (quantResult q)) := by
  cases X with
  | error e => rfl
  | ok dv =>
    simp only [bind, Except.bind, Except.toOption, Option.bind]
    cases F dv with
    | error e => rfl
    | ok es =>
      simp only []
      cases G es with
      | error e => rfl
      | ok bs => rfl

theorem truth_quant (ρ : Env) (t : DataType) (q : Quant) (x : String) (d b : Expr) :
    truth opq ρ (.quant t q x d b) =
      (domElems opq ρ d).bind fun es => (es.mapM fun v => truth opq (ρ.bind x v) b).map (quantResult q) := by
  unfold truth domElems evalO
  simp only [eval]
  refine (quant_do_toOption _ _ _ q).trans ?_
  simp only [toOption_mapM]

end
section
variable (opq : Opaque)

/-! ### coincidence: the value depends only on the current message and the variables that occur -/
theorem mapM_congr {α β : Type} {m : Type → Type} [Monad m] (f g : α → m β) (l : List α) (h : ∀ a, f a = g a) :
    l.mapM f = l.mapM g := by
  have : f = g := funext h
  rw [this]

theorem lookup_bind (ρ : Env) (x y : String) (v : Value) :
    (ρ.bind x v).vars.lookup y = if y == x then some v else ρ.vars.lookup y := by
  simp only [Env.bind, List.lookup_cons]
  cases y == x <;> rfl

mutual
theorem eval_agree : ∀ (e : Expr) (ρ ρ' : Env), ρ.this = ρ'.this →
    (∀ y, e.containsRef y = true → ρ.vars.lookup y = ρ'.vars.lookup y) → eval opq ρ e = eval opq ρ' e
  | .lit .., ρ, ρ', _, _ => rfl
  | .this _, ρ, ρ', ht, _ => congrArg Except.ok ht
  | .var _ x, ρ, ρ', _, h => by
      show lookupVar ρ x = lookupVar ρ' x
      rw [lookupVar, lookupVar, h x (beq_self_eq_true x)]
  | .set _ vs, ρ, ρ', ht, h => by
      rw [eval, eval, evalList_agree vs ρ ρ' ht h]
  | .range _ lo hi _ _, ρ, ρ', ht, h => by
      rw [eval, eval, eval_agree lo ρ ρ' ht fun y hy => h y (Bool.or_eq_true_iff.2 (.inl hy)),
        eval_agree hi ρ ρ' ht fun y hy => h y (Bool.or_eq_true_iff.2 (.inr hy))]
  | .quant _ q x d b, ρ, ρ', ht, h => by
      have hb : ∀ v, eval opq (ρ.bind x v) b = eval opq (ρ'.bind x v) b := by
        intro v
        refine eval_agree b _ _ ht fun y hy => ?_
        rw [lookup_bind, lookup_bind]
        cases hyx : y == x with
        | true => rfl
        | false => exact h y (Bool.or_eq_true_iff.2 (.inr hy))
      rw [eval, eval, eval_agree d ρ ρ' ht fun y hy => h y (Bool.or_eq_true_iff.2 (.inl hy))]
      simp only [hb]
  | .un _ op a, ρ, ρ', ht, h => congrArg (· >>= unOp op) (eval_agree a ρ ρ' ht h)
  | .bin _ _ a b, ρ, ρ', ht, h => by
      rw [eval, eval, eval_agree a ρ ρ' ht fun y hy => h y (Bool.or_eq_true_iff.2 (.inl hy)),
        eval_agree b ρ ρ' ht fun y hy => h y (Bool.or_eq_true_iff.2 (.inr hy))]
  | .call _ f as, ρ, ρ', ht, h => congrArg (· >>= applyFun opq f) (evalList_agree as ρ ρ' ht h)
  | .field _ m n, ρ, ρ', ht, h => congrArg (· >>= (fieldOf · n)) (eval_agree m ρ ρ' ht h)
  | .index _ a i, ρ, ρ', ht, h => by
      rw [eval, eval, eval_agree a ρ ρ' ht fun y hy => h y (Bool.or_eq_true_iff.2 (.inl hy)),
        eval_agree i ρ ρ' ht fun y hy => h y (Bool.or_eq_true_iff.2 (.inr hy))]
theorem evalList_agree : ∀ (es : ExprList) (ρ ρ' : Env), ρ.this = ρ'.this →
    (∀ y, es.containsRef y = true → ρ.vars.lookup y = ρ'.vars.lookup y) → evalList opq ρ es = evalList opq ρ' es
  | .nil, _, _, _, _ => rfl
  | .cons e es, ρ, ρ', ht, h => by
      rw [evalList, evalList, eval_agree e ρ ρ' ht fun y hy => h y (Bool.or_eq_true_iff.2 (.inl hy)),
        evalList_agree es ρ ρ' ht fun y hy => h y (Bool.or_eq_true_iff.2 (.inr hy))]
end

/-- binding a variable that does not occur changes nothing -/
theorem eval_bind_unused (ρ : Env) (x : String) (v : Value) (e : Expr) (h : e.containsRef x = false) :
    eval opq (ρ.bind x v) e = eval opq ρ e := by
  apply eval_agree opq e (ρ.bind x v) ρ rfl
  intro y hy
  rw [lookup_bind]
  cases hyx : y == x with
  | false => rfl
  | true =>
    have : y = x := by simpa using hyx
    subst this; rw [hy] at h; cases h

theorem truth_bind_unused (ρ : Env) (x : String) (v : Value) (e : Expr) (h : e.containsRef x = false) :
    truth opq (ρ.bind x v) e = truth opq ρ e := by
  unfold truth; rw [eval_bind_unused opq ρ x v e h]

/-! ### `len(d) = 0` is true exactly on an empty domain -/
theorem binOp_eq_len (n : Nat) :
    binOp "=" (Value.num ((n : Nat) : Rat)) (Value.num ((0 : Int) : Rat)) = .ok (Value.bool (n == 0)) := by
  simp only [binOp, Gen.AND_OPERATOR, Gen.OR_OPERATOR, Gen.IMPLIES_OPERATOR, Gen.IFF_OPERATOR, String.reduceBEq, Bool.false_eq_true,
    ↓reduceIte, Value.num, Value.bool, asPrim, Prim.eq, Prim.isNumeric, Bool.and_self, bind, Except.bind, pure, Except.pure]
  congr 3
  have h0 : ((0 : Int) : Rat) = ((0 : Nat) : Rat) := rfl
  rw [h0]
  cases h : n == 0 with
  | true => rw [eq_of_beq h]; rfl
  | false => exact beq_false_of_ne fun hc => (ne_of_beq_false h) (Rat.natCast_inj.1 (Prim.num.inj hc))

theorem emptyTest_value (dv : Value) :
    (((do let es ← elems dv; pure (Value.num ((es.length : Nat) : Rat)) : EM Value) >>= fun x => binOp "=" x (Value.num ((0 : Int) : Rat)))
        >>= asBool).toOption = (elems dv).toOption.map List.isEmpty := by
  cases elems dv with
  | error e => rfl
  | ok es =>
    simp only [bind, Except.bind, pure, Except.pure]
    rw [binOp_eq_len]
    cases es <;> rfl

theorem truth_emptyTest {d te : Expr} (h : emptyTest d = .ok te) (ρ : Env) :
    truth opq ρ te = (domElems opq ρ d).map List.isEmpty := by
  obtain ⟨c, hc, h⟩ := bind_ok h
  unfold truth domElems evalO
  rw [mkBin_eval opq h, mkCall_eval opq hc]
  simp only [evalList, eval, litValue]
  cases eval opq ρ d with
  | error e => rfl
  | ok dv => exact emptyTest_value dv

end
end Hpl
