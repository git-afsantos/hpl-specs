import Hpl.Lemmas.Eval
/-! Equation lemmas for `binOp` / `unOp`, one per operator token (the definition is a chain of string comparisons). -/
namespace Hpl

theorem binOp_and (a b : Value) : binOp "and" a b = (do let x ← asBool a; let y ← asBool b; pure (Value.bool (x && y))) := by
  simp only [binOp, Gen.AND_OPERATOR, String.reduceBEq, ↓reduceIte]
theorem binOp_or (a b : Value) : binOp "or" a b = (do let x ← asBool a; let y ← asBool b; pure (Value.bool (x || y))) := by
  simp only [binOp, Gen.AND_OPERATOR, Gen.OR_OPERATOR, String.reduceBEq, Bool.false_eq_true, ↓reduceIte]
theorem binOp_implies (a b : Value) : binOp "implies" a b = (do let x ← asBool a; let y ← asBool b; pure (Value.bool (!x || y))) := by
  simp only [binOp, Gen.AND_OPERATOR, Gen.OR_OPERATOR, Gen.IMPLIES_OPERATOR, String.reduceBEq, Bool.false_eq_true, ↓reduceIte]
theorem binOp_iff (a b : Value) : binOp "iff" a b = (do let x ← asBool a; let y ← asBool b; pure (Value.bool (x == y))) := by
  simp only [binOp, Gen.AND_OPERATOR, Gen.OR_OPERATOR, Gen.IMPLIES_OPERATOR, Gen.IFF_OPERATOR, String.reduceBEq, Bool.false_eq_true, ↓reduceIte]
theorem binOp_eq (a b : Value) : binOp "=" a b = (do let x ← asPrim a; let y ← asPrim b; let r ← Prim.eq x y; pure (Value.bool r)) := by
  simp only [binOp, Gen.AND_OPERATOR, Gen.OR_OPERATOR, Gen.IMPLIES_OPERATOR, Gen.IFF_OPERATOR, String.reduceBEq, Bool.false_eq_true, ↓reduceIte]
theorem binOp_ne (a b : Value) : binOp "!=" a b = (do let x ← asPrim a; let y ← asPrim b; let r ← Prim.eq x y; pure (Value.bool (!r))) := by
  simp only [binOp, Gen.AND_OPERATOR, Gen.OR_OPERATOR, Gen.IMPLIES_OPERATOR, Gen.IFF_OPERATOR, String.reduceBEq, Bool.false_eq_true, ↓reduceIte]
theorem binOp_lt (a b : Value) : binOp "<" a b = (do let x ← asPrim a; let y ← asPrim b; let r ← Prim.lt x y; pure (Value.bool r)) := by
  simp only [binOp, Gen.AND_OPERATOR, Gen.OR_OPERATOR, Gen.IMPLIES_OPERATOR, Gen.IFF_OPERATOR, String.reduceBEq, Bool.false_eq_true, ↓reduceIte]
theorem binOp_gt (a b : Value) : binOp ">" a b = (do let x ← asPrim a; let y ← asPrim b; let r ← Prim.lt y x; pure (Value.bool r)) := by
  simp only [binOp, Gen.AND_OPERATOR, Gen.OR_OPERATOR, Gen.IMPLIES_OPERATOR, Gen.IFF_OPERATOR, String.reduceBEq, Bool.false_eq_true, ↓reduceIte]
theorem binOp_le (a b : Value) : binOp "<=" a b = (do let x ← asPrim a; let y ← asPrim b; let r ← Prim.lt y x; pure (Value.bool (!r))) := by
  simp only [binOp, Gen.AND_OPERATOR, Gen.OR_OPERATOR, Gen.IMPLIES_OPERATOR, Gen.IFF_OPERATOR, String.reduceBEq, Bool.false_eq_true, ↓reduceIte]
theorem binOp_ge (a b : Value) : binOp ">=" a b = (do let x ← asPrim a; let y ← asPrim b; let r ← Prim.lt x y; pure (Value.bool (!r))) := by
  simp only [binOp, Gen.AND_OPERATOR, Gen.OR_OPERATOR, Gen.IMPLIES_OPERATOR, Gen.IFF_OPERATOR, String.reduceBEq, Bool.false_eq_true, ↓reduceIte]
theorem binOp_add (a b : Value) : binOp "+" a b = (do let x ← asNum a; let y ← asNum b; pure (Value.num (x + y))) := by
  simp only [binOp, Gen.AND_OPERATOR, Gen.OR_OPERATOR, Gen.IMPLIES_OPERATOR, Gen.IFF_OPERATOR, String.reduceBEq, Bool.false_eq_true, ↓reduceIte]
theorem binOp_sub (a b : Value) : binOp "-" a b = (do let x ← asNum a; let y ← asNum b; pure (Value.num (x - y))) := by
  simp only [binOp, Gen.AND_OPERATOR, Gen.OR_OPERATOR, Gen.IMPLIES_OPERATOR, Gen.IFF_OPERATOR, String.reduceBEq, Bool.false_eq_true, ↓reduceIte]
theorem binOp_mul (a b : Value) : binOp "*" a b = (do let x ← asNum a; let y ← asNum b; pure (Value.num (x * y))) := by
  simp only [binOp, Gen.AND_OPERATOR, Gen.OR_OPERATOR, Gen.IMPLIES_OPERATOR, Gen.IFF_OPERATOR, String.reduceBEq, Bool.false_eq_true, ↓reduceIte]
theorem binOp_div (a b : Value) : binOp "/" a b = (do
    let x ← asNum a; let y ← asNum b
    if y = 0 then .error .arith else pure (Value.num (x / y))) := by
  simp only [binOp, Gen.AND_OPERATOR, Gen.OR_OPERATOR, Gen.IMPLIES_OPERATOR, Gen.IFF_OPERATOR, String.reduceBEq, Bool.false_eq_true, ↓reduceIte]
theorem binOp_pow (a b : Value) : binOp "**" a b = (do
    let x ← asNum a; let y ← asNum b
    if isInt y then do let r ← ratPow x y.num; pure (Value.num r) else .error .arith) := by
  simp only [binOp, Gen.AND_OPERATOR, Gen.OR_OPERATOR, Gen.IMPLIES_OPERATOR, Gen.IFF_OPERATOR, String.reduceBEq, Bool.false_eq_true, ↓reduceIte]
theorem binOp_in (a b : Value) : binOp "in" a b = (do let x ← asPrim a; let r ← memOf x b; pure (Value.bool r)) := by
  simp only [binOp, Gen.AND_OPERATOR, Gen.OR_OPERATOR, Gen.IMPLIES_OPERATOR, Gen.IFF_OPERATOR, Gen.IN_OPERATOR, String.reduceBEq, Bool.false_eq_true, ↓reduceIte]

theorem unOp_not (v : Value) : unOp "not" v = (do let b ← asBool v; pure (Value.bool (!b))) := by
  simp only [unOp, Gen.NOT_OPERATOR, String.reduceBEq, ↓reduceIte]
theorem unOp_neg (v : Value) : unOp "-" v = (do let q ← asNum v; pure (Value.num (-q))) := by
  simp only [unOp, Gen.NOT_OPERATOR, String.reduceBEq, Bool.false_eq_true, ↓reduceIte]

end Hpl
