import Hpl.Model.Build
/-! Helper lemmas about the `Except Err` monad used by the model. -/
namespace Hpl

theorem bind_ok {ε α β : Type} {x : Except ε α} {f : α → Except ε β} {b : β}
    (h : (x >>= f) = .ok b) : ∃ a, x = .ok a ∧ f a = .ok b := by
  cases x with
  | error e => cases h
  | ok a => exact ⟨a, rfl, h⟩

theorem exists_unit {p : Unit → Prop} : (∃ u, p u) ↔ p () := ⟨fun ⟨_, h⟩ => h, fun h => ⟨_, h⟩⟩

theorem bind_ok_iff {ε α β : Type} {x : Except ε α} {f : α → Except ε β} {b : β} :
    (x >>= f) = .ok b ↔ ∃ a, x = .ok a ∧ f a = .ok b :=
  ⟨bind_ok, fun ⟨a, ha, hf⟩ => by rw [ha]; exact hf⟩

/-- a check followed by more succeeds iff both do -/
theorem seq_ok_iff {ε β : Type} {x : Except ε Unit} {y : Except ε β} {b : β} :
    (x >>= fun _ => y) = .ok b ↔ x = .ok () ∧ y = .ok b :=
  bind_ok_iff.trans exists_unit

theorem bind_ok' {α β : Type} {x : M α} {f : α → M β} {b : β}
    (h : (do let a ← x; f a) = .ok b) : ∃ a, x = .ok a ∧ f a = .ok b := bind_ok h

theorem bind_err {ε α β : Type} {x : Except ε α} {f : α → Except ε β} {e : ε}
    (h : (x >>= f) = .error e) : x = .error e ∨ ∃ a, x = .ok a ∧ f a = .error e := by
  cases x with
  | error e' => exact .inl (Except.error.inj h ▸ rfl)
  | ok a => exact .inr ⟨a, rfl, h⟩

/-- an error of a sequence of steps is an error of one of them -/
theorem bind_err_class {α β : Type} (C : Err → Prop) {x : M α} {f : α → M β} {y : Err}
    (hx : x = .error y → C y) (hf : ∀ a, f a = .error y → C y) (h : (x >>= f) = .error y) : C y :=
  (bind_err h).elim hx fun ⟨a, _, h⟩ => hf a h

theorem ite_eq {α : Type} {c : Prop} [Decidable c] {x y z : α} (h : (if c then x else y) = z) :
    c ∧ x = z ∨ ¬c ∧ y = z := by
  by_cases hc : c
  · exact .inl ⟨hc, by rwa [if_pos hc] at h⟩
  · exact .inr ⟨hc, by rwa [if_neg hc] at h⟩

@[simp] theorem ok_bind {α β : Type} (a : α) (f : α → M β) : ((Except.ok a : M α) >>= f) = f a := rfl
@[simp] theorem error_bind {α β : Type} (e : Err) (f : α → M β) : ((Except.error e : M α) >>= f) = .error e := rfl
@[simp] theorem pure_eq_ok {α : Type} (a : α) : (pure a : M α) = .ok a := rfl

end Hpl
