-- root of the `Hpl` library: generated tables, model, spec and property theorems
import Hpl.Model.TableTypes
import Hpl.Generated.Tables
import Hpl.Model.DataType
import Hpl.Model.Ast
import Hpl.Model.Printer
import Hpl.Model.Query
import Hpl.Model.Build
import Hpl.Model.BuildProp
import Hpl.Spec.Typing
import Hpl.Spec.Scoping
import Hpl.Spec.Canonical
import Hpl.Spec.Trace
import Hpl.Model.Canon
import Hpl.Wire.Sexp
import Hpl.Wire.Codec
import Hpl.Lemmas.Except
import Hpl.Lemmas.Simplify
import Hpl.Props.C20
import Hpl.Props.C15
import Hpl.Props.C03
import Hpl.Props.C02
import Hpl.Lemmas.QuantOK
import Hpl.Props.C11
import Hpl.Props.C12
import Hpl.Spec.Eval
import Hpl.Spec.Shapes
import Hpl.Model.Rewrite.Split
import Hpl.Model.Rewrite.Refactor
import Hpl.Lemmas.Eval
import Hpl.Lemmas.OptList
import Hpl.Lemmas.Refs
import Hpl.Props.C09
import Hpl.Props.C10
import Hpl.Props.C13
import Hpl.Model.PyNum
import Hpl.Model.Rewrite.Simplify
import Hpl.Props.C08
import Hpl.Props.C14
import Hpl.Model.Lexer
import Hpl.Model.Parser
import Hpl.Props.C01
import Hpl.Props.C06
import Hpl.Props.C07
import Hpl.Props.C18
import Hpl.Spec.Clash
import Hpl.Props.C05
import Hpl.Model.Schema
import Hpl.Spec.Schema
import Hpl.Props.C17
import Hpl.Spec.WellTyped
import Hpl.Spec.InferTyping
import Hpl.Props.C04
import Hpl.Model.Json
import Hpl.Props.C19
import Hpl.Props.C16
import Hpl.Props.C07b
import Hpl.Props.C07c
import Hpl.Lemmas.BinOp
import Hpl.Props.C08a
import Hpl.Props.C08b
import Hpl.Props.C13b
import Hpl.Props.C13c
import Hpl.Lemmas.Dedup
import Hpl.Props.C08c
import Hpl.Spec.PrintToks
import Hpl.Props.C06b
import Hpl.Props.C03b
import Hpl.Props.C03c
import Hpl.Props.C03d
import Hpl.Props.C08d
import Hpl.Props.C08e
import Hpl.Props.C08f
import Hpl.Props.C14b
import Hpl.Props.C14c
import Hpl.Props.C14d
import Hpl.Props.C14e
import Hpl.Props.C13f
import Hpl.Spec.PrintToksProp
import Hpl.Props.C06c
import Hpl.Spec.Grammar
import Hpl.Spec.GrammarProp
import Hpl.Props.C01b
import Hpl.Props.C01c
import Hpl.Spec.PrintChars
import Hpl.Props.C06d
import Hpl.Props.C06e
import Hpl.Props.C06f
import Hpl.Props.C06g
import Hpl.Props.C06h
import Hpl.Props.C13d
import Hpl.Props.C13e
import Hpl.Props.C15b
import Hpl.Props.C05b
import Hpl.Props.C03e
import Hpl.Props.C09b
import Hpl.Props.C09c
import Hpl.Props.C10b
import Hpl.Props.C01d
import Hpl.Props.C18b
import Hpl.Props.C18c
import Hpl.Props.C01e
import Hpl.Props.C06m
import Hpl.Props.C18d
import Hpl.Props.C06n
import Hpl.Props.C18e
import Hpl.Props.C18f
import Hpl.Props.C01f
import Hpl.Props.C01g
import Hpl.Spec.PrintCharsProp
import Hpl.Props.C06j
import Hpl.Props.C06k
